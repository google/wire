/-! A simplified second copy of the emission / execution model of `WireV/Emit.lean` (`injectPass` +
    `funcProviderCall`): calls, statements and events carry provider ids instead of positions, every call is a
    provider function call, and the injector always returns a cleanup.  No theorem relates `WC` to `WireV`, and
    nothing else uses it; the statements about the `WireV` model are in `WireP/Props/C03.lean` and `C04.lean`. -/
namespace WC

structure Call where
  id : Nat
  hasCleanup : Bool
  hasErr : Bool

/-- the error branch, if any, lists the cleanups in the order the generated code runs them -/
structure Stmt where
  id : Nat
  errBranch : Option (List Nat)

/-- `funcProviderCall`: `prevCleanup := len(cleanupNames)` *before* the own cleanup is appended;
    the branch runs `cleanupNames[prevCleanup-1 .. 0]` -/
def emitFrom (acq : List Nat) : List Call → List Stmt × List Nat
  | [] => ([], acq)
  | c :: cs =>
    let acq' := if c.hasCleanup then acq ++ [c.id] else acq
    let st : Stmt := { id := c.id, errBranch := if c.hasErr then some acq.reverse else none }
    let r := emitFrom acq' cs
    (st :: r.1, r.2)

/-- the steps, and the body of the returned cleanup closure -/
def emit (cs : List Call) : List Stmt × List Nat :=
  let r := emitFrom [] cs
  (r.1, r.2.reverse)

inductive Ev
  | call (id : Nat)
  | cleanup (id : Nat)
deriving DecidableEq, Repr

inductive Outcome
  | failed (id : Nat)                -- returned (zero, nil, err of provider `id`)
  | ok (closure : List Nat)          -- returned (value, closure, nil)
deriving DecidableEq, Repr

def exec (fails : Nat → Bool) (closure : List Nat) : List Stmt → List Ev × Outcome
  | [] => ([], Outcome.ok closure)
  | s :: ss =>
    match s.errBranch with
    | some cl =>
      if fails s.id then (Ev.call s.id :: cl.map Ev.cleanup, Outcome.failed s.id)
      else let r := exec fails closure ss; (Ev.call s.id :: r.1, r.2)
    | none => let r := exec fails closure ss; (Ev.call s.id :: r.1, r.2)

def run (fails : Nat → Bool) (cs : List Call) : List Ev × Outcome :=
  exec fails (emit cs).2 (emit cs).1

def cleanupsOf (cs : List Call) : List Nat := (cs.filter (·.hasCleanup)).map (·.id)

theorem emitFrom_acq (acq : List Nat) (cs : List Call) :
    (emitFrom acq cs).2 = acq ++ cleanupsOf cs := by
  induction cs generalizing acq with
  | nil => simp [emitFrom, cleanupsOf]
  | cons c cs ih =>
    simp only [emitFrom]
    rw [ih]
    cases h : c.hasCleanup <;> simp [cleanupsOf, h]

theorem exec_emitFrom_cons (fails : Nat → Bool) (closure acq : List Nat) (c : Call) (cs : List Call) :
    exec fails closure (emitFrom acq (c :: cs)).1 =
      if c.hasErr = true ∧ fails c.id = true then
        (Ev.call c.id :: acq.reverse.map Ev.cleanup, Outcome.failed c.id)
      else
        let r := exec fails closure (emitFrom (acq ++ cleanupsOf [c]) cs).1
        (Ev.call c.id :: r.1, r.2) := by
  cases he : c.hasErr <;> cases hc : c.hasCleanup <;> simp [emitFrom, exec, cleanupsOf, he, hc]

theorem exec_emitFrom_append (fails : Nat → Bool) (closure acq : List Nat) (pre rest : List Call)
    (h : ∀ d, d ∈ pre → ¬ (d.hasErr = true ∧ fails d.id = true)) :
    exec fails closure (emitFrom acq (pre ++ rest)).1 =
      let r := exec fails closure (emitFrom (acq ++ cleanupsOf pre) rest).1
      (pre.map (fun c => Ev.call c.id) ++ r.1, r.2) := by
  induction pre generalizing acq with
  | nil => simp [cleanupsOf]
  | cons x xs ih =>
    rw [List.cons_append, exec_emitFrom_cons, if_neg (h x List.mem_cons_self),
      ih _ (fun d hd => h d (List.mem_cons_of_mem _ hd))]
    have : cleanupsOf [x] ++ cleanupsOf xs = cleanupsOf (x :: xs) := by
      simp only [cleanupsOf, ← List.map_append, ← List.filter_append, List.singleton_append]
    simp only [List.append_assoc, this, List.map_cons, List.cons_append]

/-- C04.  No failure: every provider is called, in order, no cleanup runs, and the returned closure runs the cleanups
    acquired, in reverse order. -/
theorem run_ok (fails : Nat → Bool) (cs : List Call)
    (hok : ∀ c, c ∈ cs → ¬ (c.hasErr = true ∧ fails c.id = true)) :
    run fails cs = (cs.map (fun c => Ev.call c.id), Outcome.ok (cleanupsOf cs).reverse) := by
  have := exec_emitFrom_append fails (emit cs).2 [] cs [] hok
  simpa [run, emit, emitFrom, exec, emitFrom_acq] using this

/-- C03.  `c` is the first provider to fail: the providers up to and including `c` are called, then the cleanups
    acquired before `c` run in reverse order (not `c`'s own), and the injector returns `c`'s error. -/
theorem run_fail (fails : Nat → Bool) (pre post : List Call) (c : Call)
    (hce : c.hasErr = true) (hcf : fails c.id = true)
    (hpre : ∀ d, d ∈ pre → ¬ (d.hasErr = true ∧ fails d.id = true)) :
    run fails (pre ++ c :: post) =
      ((pre ++ [c]).map (fun c => Ev.call c.id) ++ (cleanupsOf pre).reverse.map Ev.cleanup,
       Outcome.failed c.id) := by
  have := exec_emitFrom_append fails (emit (pre ++ c :: post)).2 [] pre (c :: post) hpre
  rw [exec_emitFrom_cons, if_pos ⟨hce, hcf⟩] at this
  simpa [run, emit] using this

-- four providers, the first three return cleanups, the third fails
example : run (fun i => i == 3) [⟨1, true, false⟩, ⟨2, true, true⟩, ⟨3, true, true⟩, ⟨4, false, false⟩]
    = ([Ev.call 1, Ev.call 2, Ev.call 3, Ev.cleanup 2, Ev.cleanup 1], Outcome.failed 3) := by decide +kernel

end WC
