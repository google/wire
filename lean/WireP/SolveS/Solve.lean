import WireP.Lemmas.Dfs
/-! A simplified version `WS` of the planner machine `WireV.svStep` (`solve` of analyze.go): no
    provider payload, no `used` list, no frames, an error is just the missing type.  Its theorem
    `WS.big`, an instance of `WireP.Dfs.big`: on an acyclic map (what `verifyAcyclic` establishes)
    the machine consumes the type on top of its stack. -/
namespace WS

abbrev Ty := Nat

/-- what `set.For(t)` returns, reduced to what planning needs: the concrete type (`≠ t` exactly for
    an interface binding) and the dependencies (provider parameters, a field's parent, `[]` for a value) -/
structure Node where
  conc : Ty
  deps : List Ty

abbrev Idx := Option Nat        -- `none` = errAbort

def look (t : Ty) : List (Ty × Idx) → Option Idx
  | [] => none
  | (k, v) :: l => if t = k then some v else look t l

structure St where
  index : List (Ty × Idx)
  stk : List Ty                 -- top of stack = head
  calls : List (Ty × List Nat)  -- output type, argument indices
  errs : List Ty                -- "no provider found for"

def missing (s : St) (nd : Node) : List Ty := nd.deps.filter (fun a => (look a s.index).isNone)

def argIdx (s : St) (nd : Node) : List Idx := nd.deps.map (fun a => (look a s.index).join)

def step (lk : Ty → Option Node) (ng : Nat) (s : St) : Option St :=
  match s.stk with
  | [] => none
  | t :: rest =>
    match look t s.index with
    | some _ => some { s with stk := rest }
    | none =>
      match lk t with
      | none => some { s with stk := rest, errs := s.errs ++ [t], index := (t, none) :: s.index }
      | some nd =>
        if nd.conc ≠ t then
          match look nd.conc s.index with
          | none => some { s with stk := nd.conc :: t :: rest }
          | some i => some { s with stk := rest, index := (t, i) :: s.index }
        else if missing s nd ≠ [] then some { s with stk := missing s nd ++ t :: rest }
        else if (argIdx s nd).any Option.isNone then
          some { s with stk := rest, index := (t, none) :: s.index }
        else
          some { s with stk := rest, index := (t, some (ng + s.calls.length)) :: s.index,
                        calls := s.calls ++ [(t, (argIdx s nd).filterMap id)] }

def iter (lk : Ty → Option Node) (ng : Nat) : Nat → St → Option St
  | 0, s => some s
  | n + 1, s => (step lk ng s).bind (iter lk ng n)

def dep (lk : Ty → Option Node) (t u : Ty) : Prop :=
  ∃ nd, lk t = some nd ∧ ((nd.conc ≠ t ∧ u = nd.conc) ∨ (nd.conc = t ∧ u ∈ nd.deps))

inductive Reach (lk : Ty → Option Node) : Ty → Ty → Prop
  | refl (a : Ty) : Reach lk a a
  | step {a b c : Ty} : dep lk a b → Reach lk b c → Reach lk a c

def Acyclic (lk : Ty → Option Node) : Prop := WellFounded (fun u t => dep lk t u)

/-- `Dfs.Grew` for this machine, without the list of new keys -/
structure Ext (lk : Ty → Option Node) (t : Ty) (s s' : St) : Prop where
  keep : ∀ u i, look u s.index = some i → look u s'.index = some i
  new : ∀ u, (look u s'.index).isSome → (look u s.index).isSome ∨ Reach lk t u

/-- `Dfs.Goal` for this machine, without the step bound -/
def Goal (lk : Ty → Option Node) (ng : Nat) (t : Ty) : Prop :=
  ∀ s rest, s.stk = t :: rest →
    ∃ n s', iter lk ng n s = some s' ∧ s'.stk = rest ∧ (look t s'.index).isSome ∧ Ext lk t s s'

open WireP WireP.Iter

def kids (lk : Ty → Option Node) (t : Ty) : List Ty :=
  match lk t with
  | none => []
  | some nd => if nd.conc ≠ t then [nd.conc] else nd.deps

theorem mem_kids {lk : Ty → Option Node} {t a : Ty} : a ∈ kids lk t ↔ dep lk t a := by
  unfold kids dep
  cases lk t with
  | none => simp
  | some nd => by_cases h : nd.conc = t <;> simp [h]

theorem iter_eq (lk : Ty → Option Node) (ng : Nat) : iter lk ng = runO (step lk ng) :=
  runO_unique (fun _ => rfl) (fun _ _ => rfl)

theorem step_visit (lk : Ty → Option Node) (ng : Nat) (s : St) (t : Ty) (rest : List Ty)
    (hs : s.stk = t :: rest) : ∃ s', step lk ng s = some s' ∧
      Dfs.Visit (fun s u => look u s.index) St.stk (kids lk) s t rest s' := by
  have add : ∀ (v : Idx) (s' : St), s'.index = (t, v) :: s.index → ∀ u, u ≠ t →
      look u s'.index = look u s.index := fun v s' h u e => by simp [h, look, e]
  unfold step
  rw [hs]
  dsimp only
  cases hlt : look t s.index with
  | some i => exact ⟨_, rfl, .hit (by simp [hlt]) rfl rfl⟩
  | none =>
    dsimp only
    cases hlk : lk t with
    | none =>
      exact ⟨_, rfl, .done none hlt (by simp [Dfs.todo, kids, hlk]) rfl (by simp [look]) (add none _ rfl)⟩
    | some nd =>
      dsimp only
      by_cases hb : nd.conc = t
      · have htodo : Dfs.todo (fun s u => look u s.index) (kids lk) s t = missing s nd := by
          simp [Dfs.todo, kids, hlk, hb, missing]
        rw [if_neg (not_not_intro hb)]
        by_cases hm : missing s nd = []
        · rw [if_neg (not_not_intro hm)]
          by_cases hab : (argIdx s nd).any Option.isNone = true
          · rw [if_pos hab]
            exact ⟨_, rfl, .done none hlt (htodo ▸ hm) rfl (by simp [look]) (add none _ rfl)⟩
          · rw [if_neg hab]
            exact ⟨_, rfl, .done (some (ng + s.calls.length)) hlt (htodo ▸ hm) rfl (by simp [look])
              (add _ _ rfl)⟩
        · rw [if_pos hm]
          exact ⟨_, rfl, .push _ hlt (htodo ▸ hm) (htodo ▸ .refl _) rfl rfl⟩
      · rw [if_pos hb]
        cases hlc : look nd.conc s.index with
        | some i =>
          exact ⟨_, rfl, .done i hlt (by simp [Dfs.todo, kids, hlk, hb, hlc]) rfl (by simp [look])
            (add i _ rfl)⟩
        | none =>
          have htodo : Dfs.todo (fun s u => look u s.index) (kids lk) s t = [nd.conc] := by
            simp [Dfs.todo, kids, hlk, hb, hlc]
          exact ⟨_, rfl, .push [nd.conc] hlt (by simp [htodo]) (htodo ▸ .refl _) rfl rfl⟩

theorem reach_of_desc {lk : Ty → Option Node} {t u : Ty} : Dfs.Desc (kids lk) t u → Reach lk t u
  | .inl e => e ▸ .refl u
  | .inr h => by
    induction h with
    | single h => exact .step (mem_kids.mp h) (.refl u)
    | tail _ h ih => exact .step (mem_kids.mp h) ih

theorem big (lk : Ty → Option Node) (ng : Nat) (hwf : Acyclic lk) : ∀ t, Goal lk ng t := by
  intro t s rest hs
  obtain ⟨n, s', new, hn, hk, ht, g, -⟩ :=
    Dfs.big (memo := fun s u => look u s.index) (stk := St.stk) (step := step lk ng)
      (kids := kids lk) (wt := fun t => (kids lk t).length + 1) (I := fun _ => True)
      (Subrelation.wf (fun h => mem_kids.mp h) hwf) (fun _ _ => Nat.le_refl _)
      (fun _ _ _ _ => trivial) (fun s t rest _ => step_visit lk ng s t rest) t s rest trivial hs
  exact ⟨n, s', iter_eq lk ng ▸ hn, hk, ht, g.keep, fun u hu => (g.only u hu).imp_right
    fun h => reach_of_desc (g.fresh u h).2.2⟩

end WS
