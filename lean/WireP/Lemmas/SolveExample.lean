import WireP.Lemmas.SolveDefs
/-! # Concrete instances for the non-vacuity examples of C02 / C06 / C08 / C11

`pmEx` : injector argument `0`; value `1`; provider `B(0,1) → 2`; interface `3` bound to `2`;
`C(3) → 4`; `D(2) → 5`; struct provider `E(4,5) → 6` (a diamond over `2`); field `7` of `6`;
`out = 7`.  `pmMiss` is the same map without the value `1`. -/
namespace WireP.Solve.Ex
open WireV

def pB : Prov := { id := 20, args := [0, 1], outs := [2] }
def pC : Prov := { id := 21, args := [3], outs := [4] }
def pD : Prov := { id := 22, args := [2], outs := [5], hasErr := true }
def pE : Prov := { id := 23, args := [4, 5], outs := [6], isStruct := true }
def vV : Val := { id := 10, out := 1 }
def fF : Fld := { id := 30, parent := 6, outs := [7] }
def bI : Bnd := { id := 40, iface := 3, provided := 2 }

def pmEx : PMap :=
  [(0, ⟨0, .arg 0⟩), (1, ⟨1, .val vV⟩), (2, ⟨2, .prov pB⟩), (3, ⟨2, .prov pB⟩),
   (4, ⟨4, .prov pC⟩), (5, ⟨5, .prov pD⟩), (6, ⟨6, .prov pE⟩), (7, ⟨7, .fld fF⟩)]

def smEx : SMap :=
  [(0, .arg 0), (1, .val 10), (2, .prov 20), (3, .bnd 40), (4, .prov 21), (5, .prov 22),
   (6, .prov 23), (7, .fld 30)]

def dEx : SetDef :=
  { id := 0, args := some [0], imports := [], provs := [pB, pC, pD, pE], vals := [vV],
    flds := [fF], bnds := [bI] }

/-- the same set with one more, unused, value -/
def dEx' : SetDef := { dEx with vals := [vV, { id := 11, out := 8 }] }

def pmMiss : PMap := pmEx.filter (fun kv => kv.1 != 1)
def smMiss : SMap := smEx.filter (fun kv => kv.1 != 1)

theorem hEx : H pmEx [0] where
  acyclic := acyclic_of_rank pmEx id (by decide +kernel)
  argsGiven := argsGiven_of_forall pmEx [0] (by decide +kernel)
  concClosed := concClosed_of_forall pmEx (by decide +kernel)
  keysNodup := by decide +kernel
  givenNodup := by decide +kernel

theorem hMiss : H pmMiss [0] where
  acyclic := acyclic_of_rank pmMiss id (by decide +kernel)
  argsGiven := argsGiven_of_forall pmMiss [0] (by decide +kernel)
  concClosed := concClosed_of_forall pmMiss (by decide +kernel)
  keysNodup := by decide +kernel
  givenNodup := by decide +kernel

theorem leafEx : GivenLeaf pmEx [0] := givenLeaf_of_forall pmEx [0] (by decide +kernel)
theorem leafMiss : GivenLeaf pmMiss [0] := givenLeaf_of_forall pmMiss [0] (by decide +kernel)
/-- `SrcTotal` on the keys `0`..`8` only (those of `pmEx` and one absent), so that `decide` can
    check it; not `SrcTotal pmEx smEx`, which speaks of every key -/
theorem srcTotalEx : ∀ k ∈ [0, 1, 2, 3, 4, 5, 6, 7, 8], (look k pmEx).isSome = (look k smEx).isSome := by
  decide

/-- computed once, for the examples of the property files -/
theorem finalEx : final pmEx smEx [0] 7 =
    { index := [(7, some 6), (6, some 5), (5, some 4), (4, some 3), (3, some 2), (2, some 2),
        (1, some 1), (0, some 0)]
      calls := [{ kind := .value, out := 1, srcId := 10 },
        { kind := .func, out := 2, srcId := 20, args := [0, 1], ins := [0, 1] },
        { kind := .func, out := 4, srcId := 21, args := [2], ins := [3] },
        { kind := .func, out := 5, srcId := 22, args := [2], ins := [2], hasErr := true },
        { kind := .struct, out := 6, srcId := 23, args := [3, 4], ins := [4, 5] },
        { kind := .field, out := 7, srcId := 30, args := [5] }]
      used := [.fld 30, .prov 23, .prov 21, .bnd 40, .prov 20, .val 10, .prov 20, .bnd 40, .prov 21,
        .prov 22, .prov 23, .fld 30] } := by
  rfl

theorem finalMiss : final pmMiss smMiss [0] 7 =
    { index := [(7, none), (6, none), (5, none), (4, none), (3, none), (2, none), (1, none),
        (0, some 0)]
      used := [.fld 30, .prov 23, .prov 21, .bnd 40, .prov 20, .prov 20, .bnd 40, .prov 21, .prov 22,
        .prov 23, .fld 30]
      errs := [Err.noProvider 1 [2, 3, 4, 6, 7]] } := by
  rfl

/-- a *given* type that is the key of a binding: `H` holds, `GivenSelf` fails -/
def pmA : PMap :=
  [(3, ⟨2, .val { id := 7, out := 2 }⟩), (2, ⟨2, .val { id := 7, out := 2 }⟩),
   (4, ⟨4, .prov { id := 1, args := [3], outs := [4] }⟩)]

theorem hA : H pmA [3] where
  acyclic := acyclic_of_rank pmA id (by decide +kernel)
  argsGiven := argsGiven_of_forall pmA [3] (by decide +kernel)
  concClosed := concClosed_of_forall pmA (by decide +kernel)
  keysNodup := by decide +kernel
  givenNodup := by decide +kernel

/-- a *given* type that also has a provider with parameters: `H` holds, `GivenLeaf` fails -/
def pmB : PMap :=
  [(0, ⟨0, .prov { id := 1, args := [1, 5], outs := [0] }⟩), (1, ⟨1, .val { id := 2, out := 1 }⟩)]
def smB : SMap := [(0, .prov 1), (1, .val 2)]

theorem hB : H pmB [0] where
  acyclic := acyclic_of_rank pmB (fun t => if t = 0 then 1 else 0) (by decide +kernel)
  argsGiven := argsGiven_of_forall pmB [0] (by decide +kernel)
  concClosed := concClosed_of_forall pmB (by decide +kernel)
  keysNodup := by decide +kernel
  givenNodup := by decide +kernel

theorem reachB1 : Reach pmB 0 1 :=
  .step ⟨_, rfl, Or.inr ⟨rfl, by decide +kernel⟩⟩ (.refl 1)
theorem reachB5 : Reach pmB 0 5 :=
  .step ⟨_, rfl, Or.inr ⟨rfl, by decide +kernel⟩⟩ (.refl 5)

end WireP.Solve.Ex
