import Batteries.Data.List.Lemmas
import WireP.Lemmas.AcyclicDefs
import WireP.Lemmas.AcyclicTerm
import WireP.Lemmas.PipelineSets
/-! The verdict of `verifyAcyclic` (C07), by two invariants of `acStep`.  Every stacked trail is a path
of the graph (`Inv`), so every diagnostic is a closed walk (`va_sound`).  Conversely a run that reports
nothing has seen no cycle (`Comp`), so for a root list that covers the keys `errs = [] ↔ ¬ Cyclic`
(`acIter_spec`, `va_spec`).  `PipelineSets` is imported for `procSet_eq_ok_iff` in `procSet_ok_acyclic`
only. -/
namespace WireP.AcyclicProofs
open WireV WireP.C07

theorem chain_append_right {R : Ty → Ty → Prop} : ∀ {l1 l2 : List Ty},
    List.IsChain R (l1 ++ l2) → List.IsChain R l2
  | [], _, h => h
  | _ :: l1, _, h => chain_append_right (l1 := l1) (List.isChain_of_isChain_cons h)

theorem chain_snoc {R : Ty → Ty → Prop} {a : Ty} : ∀ {l : List Ty}, List.IsChain R l →
    (∀ x, l.getLast? = some x → R x a) → List.IsChain R (l ++ [a])
  | [], _, _ => List.IsChain.singleton a
  | [b], _, hl => by
    have : R b a := hl b (by simp)
    simpa using List.IsChain.cons_cons this (List.IsChain.singleton a)
  | b :: c :: l, hc, hl => by
    have hc' := List.isChain_cons_cons.mp hc
    have ih := chain_snoc (a := a) hc'.2 (fun x hx => hl x (by simpa using hx))
    simpa using List.IsChain.cons_cons hc'.1 ih

/-- A trail is stored newest first; read oldest first it is a path of the graph. -/
def TrailOK (succ : Ty → List Ty) (T : List Ty) : Prop :=
  List.IsChain (fun x y => y ∈ succ x) T.reverse

theorem trailOK_push {succ : Ty → List Ty} {h a : Ty} {t : List Ty}
    (ht : TrailOK succ (h :: t)) (ha : a ∈ succ h) : TrailOK succ (a :: h :: t) := by
  unfold TrailOK at ht ⊢
  rw [List.reverse_cons]
  apply chain_snoc ht
  intro x hx
  rw [List.getLast?_reverse] at hx
  simp at hx; subst hx; exact ha

theorem cycleOf_isCycleTrail {succ : Ty → List Ty} {h a : Ty} {t : List Ty}
    (ht : TrailOK succ (h :: t)) (ha : a ∈ succ h) (hm : a ∈ h :: t) :
    IsCycleTrail succ (cycleOf (h :: t) a) := by
  unfold TrailOK at ht
  -- the trail, oldest first, is `p ++ a :: r` with `a ∉ p`; what is printed is `a :: r ++ [a]`
  obtain ⟨p, r, e, hn⟩ := List.eq_append_cons_of_mem (List.mem_reverse.mpr hm)
  have hcyc : cycleOf (h :: t) a = (a :: r) ++ [a] := by
    unfold cycleOf
    rw [e, List.dropWhile_append_of_pos (fun x hx => by simpa using fun e' : x = a => hn (e' ▸ hx)),
      List.dropWhile_cons_of_neg (by simp)]
  have hlast : (a :: r).getLast? = some h := by
    have := congrArg List.getLast? e
    simpa [List.getLast?_append] using this.symm
  rw [hcyc]
  exact ⟨by simp, by rw [List.getLast?_concat]; rfl, chain_snoc (chain_append_right (e ▸ ht))
    (fun x hx => by rw [hlast] at hx; cases hx; exact ha)⟩

structure Inv (succ : Ty → List Ty) (s : AcSt) : Prop where
  trails : ∀ T ∈ s.stk, TrailOK succ T
  errs : ∀ tr ∈ s.errs, IsCycleTrail succ tr

theorem inv_init (succ : Ty → List Ty) (roots : List Ty) : Inv succ (acInit roots) := by
  constructor
  · intro T hT
    simp only [acInit, List.mem_map] at hT
    obtain ⟨r, _, rfl⟩ := hT
    simp [TrailOK]
  · intro tr htr; simp [acInit] at htr

theorem inv_step {succ : Ty → List Ty} {s s' : AcSt} (hi : Inv succ s)
    (hst : acStep succ s = some s') : Inv succ s' := by
  rcases acStep_cases hst with ⟨T, rest, hs, _, rfl⟩ | ⟨h, t, rest, hs, _, rfl⟩
  · exact ⟨fun T' hT' => hi.trails T' (by rw [hs]; exact List.mem_cons_of_mem _ hT'), hi.errs⟩
  · have hht : TrailOK succ (h :: t) := hi.trails _ (by rw [hs]; exact List.mem_cons_self)
    constructor
    · intro T hT
      simp only [List.mem_append, List.mem_reverse, List.mem_map, List.mem_filter] at hT
      rcases hT with ⟨a, ⟨ha, _⟩, rfl⟩ | hT
      · exact trailOK_push hht ha
      · exact hi.trails T (by rw [hs]; exact List.mem_cons_of_mem _ hT)
    · intro tr htr
      simp only [List.mem_append, List.mem_map, List.mem_filter] at htr
      rcases htr with htr | ⟨a, ⟨ha, hm⟩, rfl⟩
      · exact hi.errs tr htr
      · exact cycleOf_isCycleTrail hht ha (by simpa using hm)

theorem inv_iter (succ : Ty → List Ty) (roots : List Ty) (n : Nat) :
    Inv succ (acIter succ n (acInit roots)) := by
  rw [acIter_eq]
  exact Iter.run_induct (Inv succ) (fun _ _ => inv_step) n (inv_init succ roots)

theorem va_sound (pm : PMap) (roots : List Ty) :
    ∀ tr ∈ (verifyAcyclic pm roots).errs, IsCycleTrail (succOf pm) tr :=
  (inv_iter (succOf pm) roots _).errs

/-! Completeness.  The colours of the textbook argument are read off the stack.  The tail of a stacked
trail lists the expanded nodes that still have a descendant pending (*grey*); the tails are nested
(`Comp.nest`), so the grey nodes are those of the top trail's tail.  A visited node in no tail is
*black*.  While no error has been reported, no grey node has an edge to itself or to an older grey node
(`NoBack`), and the black nodes are closed under paths and lie on no cycle (`Good`).  At the end every
key is black. -/

variable {succ : Ty → List Ty}

def NoBack (succ : Ty → List Ty) : List Ty → Prop
  | [] => True
  | v :: post => (∀ a ∈ succ v, a ∉ v :: post) ∧ NoBack succ post

theorem NoBack.of_append : ∀ {p l : List Ty}, NoBack succ (p ++ l) → NoBack succ l
  | [], _, h => h
  | _ :: p, _, h => NoBack.of_append (p := p) h.2

def Good (succ : Ty → List Ty) (B : Ty → Prop) : Prop :=
  ∀ b, B b → ∀ x, Path succ b x → B x ∧ x ≠ b

/-- Nodes of a `NoBack` list may join a good set as long as the larger set is closed under edges:
    a path that starts in the list and stays out of `B` moves strictly towards the front of the
    list, so it cannot return to its start. -/
theorem Good.grow {B B' : Ty → Prop} {l : List Ty} (hB : Good succ B) (hnb : NoBack succ l)
    (hsub : ∀ v, B' v → B v ∨ v ∈ l) (hcl : ∀ v, B' v → ∀ a ∈ succ v, B' a) : Good succ B' := by
  have edge : ∀ {d x p1 p2}, B' d → x ∈ succ d → l = p1 ++ d :: p2 → B x ∨ x ∈ p1 := by
    intro d x p1 p2 hd hx e
    refine (hsub x (hcl d hd x hx)).imp_right (fun h => ?_)
    rw [e, List.mem_append] at h
    exact h.resolve_right ((e ▸ hnb).of_append.1 x hx)
  have order : ∀ {d x}, Path succ d x → B' d → ∀ p1 p2, l = p1 ++ d :: p2 → B x ∨ x ∈ p1 := by
    intro d x h
    induction h with
    | single hdx => exact fun hd p1 p2 e => edge hd hdx e
    | @cons d b x hdb hbx ih =>
      intro hd p1 p2 e
      rcases edge hd hdb e with hb | hb
      · exact .inl (hB b hb x hbx).1
      · obtain ⟨q1, q2, rfl⟩ := List.append_of_mem hb
        exact (ih (hcl d hd b hdb) q1 (q2 ++ d :: p2) (by simp [e])).imp_right
          (List.mem_append_left _)
  intro v hv x hvx
  constructor
  · clear order edge
    induction hvx with
    | single h => exact hcl _ hv _ h
    | cons h _ ih => exact ih (hcl _ hv _ h)
  · rintro rfl
    rcases hsub x hv with h | h
    · exact (hB x h x hvx).2 rfl
    · obtain ⟨p1, p2, e, hn⟩ := List.eq_append_cons_of_mem h
      exact (order hvx hv p1 p2 e).elim (fun h' => (hB x h' x hvx).2 rfl) hn

def grey (S : List (List Ty)) (v : Ty) : Prop := ∃ T ∈ S, v ∈ T.tail

/-- The invariant of the completeness proof: the colours, read off the visited list `V` and the stack
    `S` of a state with no error.  `roots`: every root is visited or still heads a stacked trail. -/
structure Comp (succ : Ty → List Ty) (roots V : List Ty) (S : List (List Ty)) : Prop where
  nest : S.Pairwise (fun T T' => T'.tail <:+ T.tail)
  noBack : ∀ T ∈ S, NoBack succ T.tail
  roots : ∀ r ∈ roots, r ∈ V ∨ ∃ T ∈ S, T.head? = some r
  /-- an edge out of a visited node leads to a visited node or to a trail pushed by that node -/
  pend : ∀ v ∈ V, ∀ a ∈ succ v, a ∈ V ∨ ∃ T ∈ S, T.head? = some a ∧ v ∈ T.tail
  good : Good succ (fun v => v ∈ V ∧ ¬ grey S v)

theorem Comp.init (roots : List Ty) : Comp succ roots [] (roots.map ([·])) := by
  have htl : ∀ T ∈ roots.map ([·]), T.tail = [] := by
    intro T hT
    obtain ⟨r, _, rfl⟩ := List.mem_map.mp hT
    rfl
  refine ⟨List.pairwise_of_forall_mem_list (fun a ha b hb => by rw [htl a ha, htl b hb]; simp),
    fun T hT => (htl T hT ▸ trivial : NoBack succ T.tail),
    fun r hr => .inr ⟨[r], List.mem_map.mpr ⟨r, hr, rfl⟩, rfl⟩,
    fun _ hv => (nomatch hv), fun _ hv => (nomatch hv.1)⟩

/-- The step, seen from the stack: the nodes `N` are marked and the top trail `T` is replaced by
    trails `K` with tail `N ++ T.tail`, one for every successor of a node of `N`.  A pop has
    `N = []` and `K = []`; expanding `h :: t` has `N = [h]`, so the new trails have tail `h :: t`. -/
theorem Comp.next {roots V N T : List Ty} {rest K : List (List Ty)}
    (hc : Comp succ roots V (T :: rest)) (hK : ∀ T' ∈ K, T'.tail = N ++ T.tail)
    (hnb : NoBack succ (N ++ T.tail)) (hN : ∀ v ∈ N, v ∉ V) (hhead : ∀ a ∈ T.head?, a ∈ N ++ V)
    (hpush : ∀ v ∈ N, ∀ a ∈ succ v, ∃ T' ∈ K, T'.head? = some a) :
    Comp succ roots (N ++ V) (K ++ rest) := by
  have hnest := List.pairwise_cons.mp hc.nest
  have hsuf : ∀ T' ∈ K ++ rest, T'.tail <:+ N ++ T.tail := by
    intro T' hT'
    rcases List.mem_append.mp hT' with h | h
    · rw [hK T' h]; exact List.suffix_refl _
    · exact (hnest.1 T' h).trans (List.suffix_append _ _)
  -- a grey node stays grey unless it is in the tail of `T` only
  have hgray : ∀ v, grey (T :: rest) v → ¬ grey (K ++ rest) v → v ∈ T.tail := by
    rintro v ⟨T', hT', hv⟩ hg
    rcases List.mem_cons.mp hT' with rfl | h
    · exact hv
    · exact absurd ⟨T', List.mem_append_right _ h, hv⟩ hg
  -- a pending trail is still there unless it was `T`, whose head is visited now
  have hold : ∀ a, ∀ T' ∈ T :: rest, T'.head? = some a → a ∈ N ++ V ∨ T' ∈ K ++ rest := by
    intro a T' hT' ha
    rcases List.mem_cons.mp hT' with rfl | h
    · exact .inl (hhead a ha)
    · exact .inr (List.mem_append_right _ h)
  have hpend : ∀ v ∈ N ++ V, ∀ a ∈ succ v,
      a ∈ N ++ V ∨ ∃ T' ∈ K ++ rest, T'.head? = some a ∧ v ∈ T'.tail := by
    intro v hv a ha
    rcases List.mem_append.mp hv with hvN | hvV
    · obtain ⟨T', hT', h⟩ := hpush v hvN a ha
      exact .inr ⟨T', List.mem_append_left _ hT', h, hK T' hT' ▸ List.mem_append_left _ hvN⟩
    · rcases hc.pend v hvV a ha with h | ⟨T', hT', hh, hvT⟩
      · exact .inl (List.mem_append_right _ h)
      · exact (hold a T' hT' hh).imp_right (fun h => ⟨T', h, hh, hvT⟩)
  refine ⟨?_, ?_, ?_, hpend, hc.good.grow hnb ?_ ?_⟩
  · rw [List.pairwise_append]
    exact ⟨List.pairwise_of_forall_mem_list
        (fun a ha b hb => by rw [hK a ha, hK b hb]; exact List.suffix_refl _),
      hnest.2, fun a ha b hb => hK a ha ▸ hsuf b (List.mem_append_right _ hb)⟩
  · intro T' hT'
    obtain ⟨p, hp⟩ := hsuf T' hT'
    exact (hp ▸ hnb).of_append
  · intro r hr
    rcases hc.roots r hr with h | ⟨T', hT', hh⟩
    · exact .inl (List.mem_append_right _ h)
    · exact (hold r T' hT' hh).imp_right (fun h => ⟨T', h, hh⟩)
  · rintro v ⟨hv, hg⟩
    rcases List.mem_append.mp hv with h | h
    · exact .inr (List.mem_append_left _ h)
    · by_cases hg0 : grey (T :: rest) v
      · exact .inr (List.mem_append_right _ (hgray v hg0 hg))
      · exact .inl ⟨h, hg0⟩
  · rintro v ⟨hv, hg⟩ a ha
    refine ⟨(hpend v hv a ha).resolve_right (fun ⟨T', hT', _, h⟩ => hg ⟨T', hT', h⟩), ?_⟩
    rintro ⟨T1, hT1, haT1⟩
    have hvT1 : v ∉ T1.tail := fun h => hg ⟨T1, hT1, h⟩
    by_cases hvl : v ∈ N ++ T.tail
    · -- `v` is grey after the step and `a` stays grey: a back edge
      obtain ⟨pre, hpre⟩ := hsuf T1 hT1
      rw [← hpre, List.mem_append] at hvl
      obtain ⟨q1, q2, rfl⟩ := List.append_of_mem (hvl.resolve_right hvT1)
      rw [← hpre, List.append_assoc, List.cons_append] at hnb
      exact hnb.of_append.1 a ha (List.mem_cons_of_mem _ (List.mem_append_right _ haT1))
    · -- `v` is black before the step, hence so is `a`
      rw [List.mem_append, not_or] at hvl
      have hvV := (List.mem_append.mp hv).resolve_left hvl.1
      have hvb : ¬ grey (T :: rest) v := fun h => hvl.2 (hgray v h hg)
      obtain ⟨haV, hab⟩ := (hc.good v ⟨hvV, hvb⟩ a (.single ha)).1
      rcases List.mem_append.mp hT1 with h | h
      · rw [hK T1 h] at haT1
        exact hab ⟨T, List.mem_cons_self, (List.mem_append.mp haT1).resolve_left (fun h => hN a h haV)⟩
      · exact hab ⟨T1, List.mem_cons_of_mem _ h, haT1⟩

theorem acStep_errs {s s' : AcSt} (hst : acStep succ s = some s') (he : s'.errs = []) :
    s.errs = [] := by
  rcases acStep_cases hst with ⟨T, rest, _, _, rfl⟩ | ⟨h, t, rest, _, _, rfl⟩
  · exact he
  · exact (List.append_eq_nil_iff.mp he).1

theorem Comp.step {roots : List Ty} {s s' : AcSt} (hc : Comp succ roots s.visited s.stk)
    (hst : acStep succ s = some s') (he : s'.errs = []) : Comp succ roots s'.visited s'.stk := by
  rcases acStep_cases hst with ⟨T, rest, hs, hT, rfl⟩ | ⟨h, t, rest, hs, hh, rfl⟩
  · rw [hs] at hc
    exact hc.next (N := []) (K := []) nofun (hc.noBack T List.mem_cons_self) nofun hT nofun
  · -- no error: no successor of `h` is on its trail, and all of them are pushed
    have hback : ∀ a ∈ succ h, a ∉ h :: t := fun a ha hm => List.filter_eq_nil_iff.mp
      (List.map_eq_nil_iff.mp (List.append_eq_nil_iff.mp he).2) a ha (decide_eq_true hm)
    rw [hs] at hc
    refine hc.next (N := [h]) ?_ ⟨hback, hc.noBack (h :: t) List.mem_cons_self⟩
      (fun v hv => List.mem_singleton.mp hv ▸ hh) (fun a ha => by cases ha; exact List.mem_cons_self)
      (fun v hv a ha => ?_)
    · intro T' hT'
      simp only [List.mem_reverse, List.mem_map] at hT'
      obtain ⟨a, _, rfl⟩ := hT'
      rfl
    · cases List.mem_singleton.mp hv
      exact ⟨a :: h :: t, List.mem_reverse.mpr (List.mem_map.mpr
        ⟨a, List.mem_filter.mpr ⟨ha, decide_eq_true (hback a ha)⟩, rfl⟩), rfl⟩

/-- When the stack is empty nothing is grey, so every root is black (`Comp.roots`); a node on a cycle
    has a successor, hence is a root, and no black node is on a cycle (`Comp.good`). -/
theorem not_cyclic_of_errs_nil {roots : List Ty} (hroots : ∀ a, succ a ≠ [] → a ∈ roots) {n : Nat}
    (hs : (acIter succ n (acInit roots)).stk = []) (he : (acIter succ n (acInit roots)).errs = []) :
    ¬ Cyclic succ := by
  rw [acIter_eq] at hs he
  have hc := Iter.run_induct (fun s => s.errs = [] → Comp succ roots s.visited s.stk)
      (fun _ _ hp hst he' => (hp (acStep_errs hst he')).step hst he') n
      (fun _ => Comp.init roots) he
  rintro ⟨a, ha⟩
  have hne : succ a ≠ [] := by cases ha <;> exact List.ne_nil_of_mem ‹_›
  have hstk : ∀ T, T ∉ (Iter.run (acStep succ) n (acInit roots)).stk := by rw [hs]; simp
  have hav := (hc.roots a (hroots a hne)).resolve_right (fun ⟨T, hT, _⟩ => hstk T hT)
  exact (hc.good a ⟨hav, fun ⟨T, hT, _⟩ => hstk T hT⟩ a ha).2 rfl

theorem path_of_chain : ∀ {l : List Ty} {a b : Ty}, List.IsChain (fun x y => y ∈ succ x) (a :: l) →
    l ≠ [] → (a :: l).getLast? = some b → Path succ a b
  | [], _, _, _, h, _ => absurd rfl h
  | [c], a, b, hc, _, hl => by
    cases hl
    exact .single (List.isChain_cons_cons.mp hc).1
  | c :: d :: l, a, b, hc, _, hl =>
    have hc' := List.isChain_cons_cons.mp hc
    .cons hc'.1 (path_of_chain hc'.2 (List.cons_ne_nil _ _) (by rwa [List.getLast?_cons_cons] at hl))

theorem cyclic_of_isCycleTrail {tr : List Ty} (h : IsCycleTrail succ tr) : Cyclic succ := by
  obtain ⟨hlen, hhl, hch⟩ := h
  match tr, hlen with
  | a :: l, hlen =>
    exact ⟨a, path_of_chain hch (by rintro rfl; simp at hlen) hhl.symm⟩

theorem acIter_spec {roots : List Ty} (hroots : ∀ a, succ a ≠ [] → a ∈ roots) {n : Nat}
    (hs : (acIter succ n (acInit roots)).stk = []) :
    (acIter succ n (acInit roots)).errs = [] ↔ ¬ Cyclic succ :=
  ⟨not_cyclic_of_errs_nil hroots hs, fun hnc => List.eq_nil_iff_forall_not_mem.mpr
    (fun tr htr => hnc (cyclic_of_isCycleTrail ((inv_iter succ roots n).errs tr htr)))⟩

theorem va_spec (pm : PMap) (roots : List Ty) (hroots : ∀ k, (look k pm).isSome → k ∈ roots) :
    (verifyAcyclic pm roots).errs = [] ↔ ¬ Cyclic (succOf pm) :=
  acIter_spec (fun a ha => hroots a (look_isSome_iff.mpr (succOf_supp pm a ha)))
    (va_terminates pm roots)

theorem checkAcyclic_eq (order : List Ty) (pm : PMap) :
    checkAcyclic order pm = (verifyAcyclic pm (rootsOf order pm)).errs.map Err.cycle := by
  simp [checkAcyclic, va_terminates]

theorem checkAcyclic_spec (order : List Ty) (pm : PMap)
    (horder : ∀ k, (look k pm).isSome → k ∈ order) :
    checkAcyclic order pm = [] ↔ ¬ Cyclic (succOf pm) := by
  rw [checkAcyclic_eq, List.map_eq_nil_iff]
  apply va_spec
  intro k hk
  exact List.mem_filter.mpr ⟨horder k hk, hk⟩

theorem procSet_ok_acyclic (order : List Ty) (done : List (Nat × SetRes)) (d : SetDef) (pm : PMap)
    (sm : SMap) (horder : ∀ k, (look k pm).isSome → k ∈ order)
    (h : procSet order done d = .ok pm sm) : ¬ Cyclic (succOf pm) :=
  let ⟨_, _, _, hca⟩ := PipelineProofs.procSet_eq_ok_iff.mp h
  (checkAcyclic_spec order pm horder).mp hca

end WireP.AcyclicProofs
