import WireV.Sets
import WireP.Lemmas.Look
/-! `buildProviderMap` as one run of inserts over a flat list of items, cut at its three error checks
(`bpm_eq`). -/
namespace WireP.PMapProofs
open WireV

def keys {β : Type} (l : List (Ty × β)) : List Ty := l.map (·.1)

@[simp] theorem keys_nil {β : Type} : keys ([] : List (Ty × β)) = [] := rfl
@[simp] theorem keys_cons {β : Type} (x : Ty × β) (l : List (Ty × β)) : keys (x :: l) = x.1 :: keys l := rfl
@[simp] theorem keys_append {β : Type} (l₁ l₂ : List (Ty × β)) : keys (l₁ ++ l₂) = keys l₁ ++ keys l₂ := by
  simp [keys]

@[simp] theorem look_nil {β : Type} (t : Ty) : look t ([] : List (Ty × β)) = none := WireV.look_nil t
theorem look_append {β : Type} (t : Ty) (l₁ l₂ : List (Ty × β)) :
    look t (l₁ ++ l₂) = match look t l₁ with | some v => some v | none => look t l₂ := by
  induction l₁ with
  | nil => rfl
  | cons x l ih =>
    obtain ⟨k, w⟩ := x
    by_cases h : t = k <;> simp [look_cons, h, ih]

theorem mem_keys_of_look {β : Type} {t : Ty} {v : β} {l : List (Ty × β)} (h : look t l = some v) :
    t ∈ keys l :=
  look_isSome_iff.mp (by rw [h]; rfl)

abbrev Item := Ty × PT × SrcId

def insL (s : BState) (l : List Item) : BState :=
  l.foldl (fun s x => s.ins x.1 x.2.1 x.2.2) s

@[simp] theorem insL_nil (s : BState) : insL s [] = s := rfl
@[simp] theorem insL_cons (s : BState) (x : Item) (l : List Item) :
    insL s (x :: l) = insL (s.ins x.1 x.2.1 x.2.2) l := rfl
theorem insL_append (s : BState) (l₁ l₂ : List Item) : insL s (l₁ ++ l₂) = insL (insL s l₁) l₂ :=
  List.foldl_append

def argItems (a : List Ty) : List Item :=
  a.zipIdx.map (fun ti => (ti.1, ⟨ti.1, .arg ti.2⟩, .arg ti.2))
def impItems (ip : Nat × PMap) : List Item := ip.2.map (fun kv => (kv.1, kv.2, .imp ip.1))
def provItems (p : Prov) : List Item := p.outs.map (fun t => (t, ⟨t, .prov p⟩, .prov p.id))
def valItem (v : Val) : Item := (v.out, ⟨v.out, .val v⟩, .val v.id)
def fldItems (f : Fld) : List Item := f.outs.map (fun t => (t, ⟨t, .fld f⟩, .fld f.id))

def optArgItems : Option (List Ty) → List Item
  | none => []
  | some a => argItems a

/-- What `buildProviderMap` inserts up to its first `errs ≠ []` check (state `s2`); `items2`: between that
    check and the second (state `s5`). -/
def items1 (args : Option (List Ty)) (imports : List (Nat × PMap)) : List Item :=
  optArgItems args ++ imports.flatMap impItems
def items2 (provs : List Prov) (vals : List Val) (flds : List Fld) : List Item :=
  provs.flatMap provItems ++ vals.map valItem ++ flds.flatMap fldItems
def baseItems (args : Option (List Ty)) (imports : List (Nat × PMap)) (provs : List Prov)
    (vals : List Val) (flds : List Fld) : List Item :=
  items1 args imports ++ items2 provs vals flds

theorem insArgs_eq (s : BState) (a : List Ty) : insArgs s a = insL s (argItems a) := by
  simp [insArgs, insL, argItems, List.foldl_map]
theorem insImport_eq (s : BState) (ip : Nat × PMap) : insImport s ip = insL s (impItems ip) := by
  simp [insImport, insL, impItems, List.foldl_map]
theorem insProv_eq (s : BState) (p : Prov) : insProv s p = insL s (provItems p) := by
  simp [insProv, insL, provItems, List.foldl_map]
theorem insFld_eq (s : BState) (f : Fld) : insFld s f = insL s (fldItems f) := by
  simp [insFld, insL, fldItems, List.foldl_map]
theorem insVal_eq (s : BState) (v : Val) : insVal s v = insL s [valItem v] := rfl

theorem foldl_insL {α : Type} {f : BState → α → BState} {g : α → List Item}
    (h : ∀ s a, f s a = insL s (g a)) (s : BState) (l : List α) :
    l.foldl f s = insL s (l.flatMap g) := by
  obtain rfl : f = fun s a => insL s (g a) := funext fun s => funext (h s)
  exact List.foldl_flatMap.symm

/-- The states `s5` (before the bindings) and `s6` (after them) of `buildProviderMap`, without the early
    exits that precede them. -/
def s5of (args : Option (List Ty)) (imports : List (Nat × PMap)) (provs : List Prov)
    (vals : List Val) (flds : List Fld) : BState :=
  insL {} (baseItems args imports provs vals flds)
def bL (s : BState) (bnds : List Bnd) : BState := bnds.foldl insBnd s
def s6of (args : Option (List Ty)) (imports : List (Nat × PMap)) (provs : List Prov)
    (vals : List Val) (flds : List Fld) (bnds : List Bnd) : BState :=
  bL (s5of args imports provs vals flds) bnds

@[simp] theorem bL_nil (s : BState) : bL s [] = s := rfl
@[simp] theorem bL_cons (s : BState) (b : Bnd) (l : List Bnd) : bL s (b :: l) = bL (insBnd s b) l := rfl

theorem bpm_eq (args : Option (List Ty)) (imports : List (Nat × PMap)) (provs : List Prov)
    (vals : List Val) (flds : List Fld) (bnds : List Bnd) :
    buildProviderMap args imports provs vals flds bnds =
      if (insL {} (items1 args imports)).errs ≠ [] then .error (insL {} (items1 args imports)).errs else
      if (s5of args imports provs vals flds).errs ≠ [] then .error (s5of args imports provs vals flds).errs else
      if (s6of args imports provs vals flds bnds).errs ≠ [] then
        .error (s6of args imports provs vals flds bnds).errs else
      .ok ((s6of args imports provs vals flds bnds).pm, (s6of args imports provs vals flds bnds).sm) := by
  cases args <;>
    simp only [buildProviderMap, insArgs_eq, foldl_insL insImport_eq, foldl_insL insProv_eq,
      foldl_insL insVal_eq, foldl_insL insFld_eq, ← insL_append,
      ← List.map_eq_flatMap, s6of, s5of, bL, baseItems, items1, items2, optArgItems, List.append_assoc,
      List.nil_append]

end WireP.PMapProofs
