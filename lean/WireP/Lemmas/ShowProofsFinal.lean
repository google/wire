import WireP.Lemmas.ShowProofsInv
import WireP.Lemmas.Dfs
/-! # What holds of `gather pm keys` (C19)

`gStep` is a step of the memoising search of `WireP/Lemmas/Dfs.lean`: the table is `visited`, the
children of a type are `succOf pm` (`gdep_iff`).  So for a `GAcyclic` map a type on top of the stack
is consumed in finitely many steps, bounded by the weight `wt` of the newly visited types, which the
fuel covers: every DFS of `gather` finishes. -/
namespace WireP.Show
open WireV WireP.Solve WireP.Potential WireP.AcyclicProofs

/-- `1 + |deps|`: every pushed dependency costs a step even if it is visited by the time it
    surfaces, and the type itself comes to the top a second time -/
def wt (pm : PMap) (u : Ty) : Nat :=
  match look u pm with
  | some pt => 1 + (depsOf pt.src).length
  | none => 0

/-- the weight of a list of new `visited` entries (`dfs_run` bounds its steps by `sum_wt_le` directly) -/
def cost (pm : PMap) (ext : List (Ty × Option Nat)) : Nat := (ext.map (fun kv => wt pm kv.1)).sum

/-- the fuel `gather` gives to each DFS -/
def gFuel (pm : PMap) : Nat := 2 + 2 * (pm.map (fun kv => 1 + (depsOf kv.2.src).length)).sum

/-- one iteration of the outer loop of `gather` -/
def gBody (pm : PMap) (s : GSt) (k : Ty) : GSt :=
  gIter pm (gFuel pm) (if (look k s.visited).isNone then { s with stk := k :: s.stk } else s)

theorem gather_eq (pm : PMap) (keys : List Ty) : gather pm keys = keys.foldl (gBody pm) {} := rfl

theorem gBody_inv {pm s} (k : Ty) (h : Inv pm s) : Inv pm (gBody pm s k) := by
  unfold gBody
  apply Inv.gIter
  split
  · exact h.of_stk _
  · exact h

theorem gather_inv (pm : PMap) (keys : List Ty) : Inv pm (gather pm keys) :=
  gather_eq pm keys ▸ List.foldlRecOn keys (gBody pm) (Inv.init pm) (fun _ h k _ => gBody_inv k h)

theorem gBody_invR {pm keys s} {k : Ty} (hk : k ∈ keys) (h : InvR pm keys s) :
    InvR pm keys (gBody pm s k) := by
  unfold gBody
  rw [gIter_eq]
  apply Iter.run_induct (InvR pm keys) (fun _ _ => InvR.gstep)
  split
  · refine ⟨?_, h.visR⟩
    intro t ht
    rcases List.mem_cons.mp ht with rfl | ht
    · exact ⟨t, hk, .refl _⟩
    · exact h.stkR t ht
  · exact h

theorem gather_invR (pm : PMap) (keys : List Ty) : InvR pm keys (gather pm keys) :=
  gather_eq pm keys ▸ List.foldlRecOn keys (gBody pm) (InvR.init pm keys) (fun _ h _ hk => gBody_invR hk h)

theorem step_visit (pm : PMap) {s : GSt} {t : Ty} {rest : List Ty} (hs : s.stk = t :: rest) :
    ∃ s', gStep pm s = some s' ∧
      Dfs.Visit (fun s u => look u s.visited) GSt.stk (succOf pm) s t rest s' := by
  obtain ⟨s', hst⟩ := step_total pm s t rest
  refine ⟨s', step_eq hs hst, ?_⟩
  have todo_eq : ∀ {pt : PT}, look t pm = some pt →
      Dfs.todo (fun s u => look u s.visited) (succOf pm) s t = missingOf s.visited (depsOf pt.src) :=
    fun hl => by rw [Dfs.todo, succOf_of_look hl]; rfl
  cases hst with
  | pop v hv => exact .hit (by simp [hv]) rfl rfl
  | leaf hv hlf =>
    have : succOf pm t = [] := by
      rcases hlf with h | ⟨pt, i, h, hi⟩
      · exact succOf_of_none h
      · rw [succOf_of_look h, hi]; rfl
    exact .done none hv (by simp [Dfs.todo, this]) rfl (look_cons_self _ _ _)
      (fun u hu => look_cons_ne _ _ hu)
  | push pt hv hl hna hm =>
    exact .push _ hv (todo_eq hl ▸ hm) (todo_eq hl ▸ List.reverse_perm _) rfl rfl
  | group pt hv hl hna hm =>
    obtain ⟨i, _, hvis, hstk, _⟩ := addToGroup_spec s t (insOf s (depsOf pt.src)) rest
    exact .done (some i) hv (todo_eq hl ▸ hm) hstk (by rw [hvis]; exact look_cons_self _ _ _)
      (fun u hu => by rw [hvis]; exact look_cons_ne _ _ hu)

/-- `Dfs.big` for `gStep`: from a state with `t` on top of the stack, `gStep` reaches within
    `1 + Σ wt` steps (summed over the newly visited types) a state where `t` is popped and visited -/
theorem big {pm : PMap} (hac : GAcyclic pm) (t : Ty) :
    Dfs.Goal (fun s u => look u s.visited) GSt.stk (gStep pm) (succOf pm) (wt pm) (fun _ => True) t := by
  refine Dfs.big (kids := succOf pm) (Subrelation.wf (fun h => gdep_iff.mpr h) hac) (fun t ht => ?_)
    (fun _ _ _ _ => trivial) (fun s t rest _ hs => step_visit pm hs) t
  cases hl : look t pm with
  | none => exact absurd (succOf_of_none hl) ht
  | some pt => simp only [succOf_of_look hl, wt, hl]; omega

theorem sum_wt_le (pm : PMap) {l : List Ty} (hnd : l.Nodup) :
    (l.map (wt pm)).sum ≤ (pm.map (fun kv => 1 + (depsOf kv.2.src).length)).sum := by
  have hwt : wt pm = wtOf (fun kv => 1 + (depsOf kv.2.src).length) pm :=
    funext fun u => by unfold wt wtOf; cases look u pm <;> rfl
  exact hwt ▸ sum_wtOf_le _ pm hnd

theorem cost_le_fuel {pm : PMap} {ext : List (Ty × Option Nat)} (hnd : (ext.map (·.1)).Nodup) :
    1 + cost pm ext + 1 ≤ gFuel pm := by
  have := sum_wt_le pm hnd
  simp only [List.map_map, Function.comp_def] at this
  unfold gFuel cost
  omega

theorem dfs_run {pm : PMap} (hac : GAcyclic pm) {s : GSt} (k : Ty) (rest : List Ty)
    (hs : s.stk = k :: rest) :
    ∃ n s', Iter.runO (gStep pm) n s = some s' ∧ s'.stk = rest ∧ (look k s'.visited).isSome ∧
      (∀ u v, look u s.visited = some v → look u s'.visited = some v) ∧
      n ≤ 1 + (pm.map (fun kv => 1 + (depsOf kv.2.src).length)).sum := by
  obtain ⟨n, s', new, hn, hs', hk, g, hc⟩ := big hac k s rest trivial hs
  exact ⟨n, s', hn, hs', hk, g.keep, Nat.le_trans hc (Nat.add_le_add_left (sum_wt_le pm g.nodup) 1)⟩

theorem gBody_halts {pm : PMap} (hac : GAcyclic pm) {s : GSt} (k : Ty) (h : s.stk = []) :
    (gBody pm s k).stk = [] ∧ (look k (gBody pm s k).visited).isSome ∧
      ∀ u v, look u s.visited = some v → look u (gBody pm s k).visited = some v := by
  unfold gBody
  cases hv : look k s.visited with
  | some v =>
    simp only [Option.isNone_some, Bool.false_eq_true, if_false]
    rw [gIter_eq, Iter.run_of_halted (gStep_none.mpr h)]
    exact ⟨h, by simp [hv], fun _ _ hu => hu⟩
  | none =>
    simp only [Option.isNone_none, if_true]
    obtain ⟨n, s', hn, hs', hk, hkeep, hle⟩ :=
      dfs_run hac (s := { s with stk := k :: s.stk }) k [] (by simp [h])
    have hfuel : n ≤ gFuel pm := by unfold gFuel; omega
    rw [gIter_eq, Iter.run_of_runO hn (gStep_none.mpr hs') hfuel]
    exact ⟨hs', hk, hkeep⟩

theorem fold_halts {pm : PMap} (hac : GAcyclic pm) : ∀ (l : List Ty) (s : GSt), s.stk = [] →
    (l.foldl (gBody pm) s).stk = [] ∧ (∀ k ∈ l, (look k (l.foldl (gBody pm) s).visited).isSome) ∧
      ∀ u v, look u s.visited = some v → look u (l.foldl (gBody pm) s).visited = some v := by
  intro l
  induction l with
  | nil => intro s h; exact ⟨h, by simp, fun _ _ hu => hu⟩
  | cons k l ih =>
    intro s h
    obtain ⟨g1, hk1, hkeep1⟩ := gBody_halts hac k h
    obtain ⟨g2, hl2, hkeep2⟩ := ih _ g1
    refine ⟨g2, ?_, fun u v hu => hkeep2 u v (hkeep1 u v hu)⟩
    intro x hx
    rcases List.mem_cons.mp hx with rfl | hx
    · obtain ⟨v, hv⟩ := Option.isSome_iff_exists.mp hk1
      simp only [List.foldl_cons]
      rw [hkeep2 x v hv]; rfl
    · exact hl2 x hx

section
variable {pm : PMap} {keys : List Ty}

theorem gather_halts (hac : GAcyclic pm) :
    (gather pm keys).stk = [] ∧ ∀ k ∈ keys, (look k (gather pm keys).visited).isSome := by
  rw [gather_eq]
  have h := fold_halts hac keys {} rfl
  exact ⟨h.1, h.2.1⟩

theorem gather_inputs_spec {k : Ty} {i : Nat}
    (h : look k (gather pm keys).visited = some (some i)) :
    ∃ g, (gather pm keys).groups[i]? = some g ∧ k ∈ g.outputs ∧ g.inputs.Nodup ∧
      ∀ u, u ∈ g.inputs ↔ Need pm k u := by
  obtain ⟨g, pt, h1, h2, _, _, _, h6⟩ := (gather_inv pm keys).grpOk k i h
  exact ⟨g, h1, h2, (gather_inv pm keys).inND i g h1, h6⟩

theorem gather_nodeps_no_inputs {k : Ty} {i : Nat} {pt : PT}
    (h : look k (gather pm keys).visited = some (some i)) (hl : look k pm = some pt)
    (hd : depsOf pt.src = []) :
    ∃ g, (gather pm keys).groups[i]? = some g ∧ k ∈ g.outputs ∧ g.inputs = [] := by
  obtain ⟨g, pt', h1, h2, h3, h4, _, h6⟩ := (gather_inv pm keys).grpOk k i h
  rw [hl] at h3; cases h3
  refine ⟨g, h1, h2, List.eq_nil_iff_forall_not_mem.mpr ?_⟩
  intro u hu
  obtain ⟨a, ha, _⟩ := (need_node hl h4 u).mp ((h6 u).mp hu)
  rw [hd] at ha; cases ha

theorem gather_groups_distinct {i j : Nat} {gi gj : Grp} (hij : i ≠ j)
    (hi : (gather pm keys).groups[i]? = some gi) (hj : (gather pm keys).groups[j]? = some gj) :
    sameKeys gi.inputs gj.inputs = false ∧ ¬ ∀ u, u ∈ gi.inputs ↔ u ∈ gj.inputs :=
  ⟨(gather_inv pm keys).distinct i j gi gj hij hi hj, (gather_inv pm keys).distinct_mem hij hi hj⟩

theorem gather_visited_iff (hac : GAcyclic pm) (t : Ty) :
    (look t (gather pm keys).visited).isSome ↔ ∃ k ∈ keys, GReach pm k t := by
  refine ⟨(gather_invR pm keys).visR t, ?_⟩
  rintro ⟨k, hk, hr⟩
  have hkv := (gather_halts hac).2 k hk
  clear hk
  induction hr with
  | refl _ => exact hkv
  | step hd _ ih => exact ih ((gather_inv pm keys).closed hkv hd)

theorem gather_assigned (hac : GAcyclic pm) {x : Ty} (hr : ∃ k ∈ keys, GReach pm k x)
    (hnl : ¬ Leaf pm x) : ∃ j, look x (gather pm keys).visited = some (some j) :=
  (gather_inv pm keys).assigned ((gather_visited_iff hac x).mpr hr) hnl

theorem gather_partition (hac : GAcyclic pm) {k : Ty} {pt : PT} (hk : k ∈ keys)
    (hl : look k pm = some pt) (hna : ∀ i, pt.src ≠ .arg i) :
    ∃ i g, look k (gather pm keys).visited = some (some i) ∧
      (gather pm keys).groups[i]? = some g ∧ k ∈ g.outputs ∧ g.outputs.Nodup ∧
      (∀ u, u ∈ g.inputs ↔ Need pm k u) ∧
      ∀ j g', (gather pm keys).groups[j]? = some g' → k ∈ g'.outputs → j = i := by
  have hI := gather_inv pm keys
  obtain ⟨i, hv⟩ := gather_assigned hac ⟨k, hk, .refl k⟩ (not_leaf hl hna)
  obtain ⟨g, _, h1, h2, _, _, _, h6⟩ := hI.grpOk k i hv
  refine ⟨i, g, hv, h1, h2, hI.outND i g h1, h6, fun j g' hj hkj => ?_⟩
  have := hI.outOk j g' k hj hkj
  rw [hv] at this
  cases this; rfl

/-- a group in terms of the map and the set of types reachable from the keys, which is all that
    `gather` keeps of the key list (`gather_reach_free`) -/
theorem gather_group_spec (hac : GAcyclic pm) {j : Nat} {g : Grp} {t : Ty}
    (hg : (gather pm keys).groups[j]? = some g) (ht : t ∈ g.outputs) :
    (∀ u, u ∈ g.inputs ↔ Need pm t u) ∧ ∀ x, x ∈ g.outputs ↔
      (∃ k ∈ keys, GReach pm k x) ∧ ¬ Leaf pm x ∧ ∀ u, Need pm x u ↔ Need pm t u := by
  have hI := gather_inv pm keys
  obtain ⟨htv, _, hin⟩ := hI.output hg ht
  refine ⟨hin, fun x => ⟨fun hx => ?_, fun ⟨hr, hnl, hsame⟩ => ?_⟩⟩
  · obtain ⟨hxv, ⟨pt, hl, hna⟩, hinx⟩ := hI.output hg hx
    exact ⟨(gather_invR pm keys).visR x (by simp [hxv]), not_leaf hl hna,
      fun u => by rw [← hinx u, hin u]⟩
  · obtain ⟨j2, hxv⟩ := gather_assigned hac hr hnl
    cases hI.same_group htv hxv hsame
    obtain ⟨g', _, hg', hxo, _⟩ := hI.grpOk x j hxv
    rw [hg] at hg'; cases hg'
    exact hxo

theorem gather_reach_free (hac : GAcyclic pm) {keys' : List Ty}
    (hk : ∀ x, (∃ k ∈ keys, GReach pm k x) ↔ ∃ k ∈ keys', GReach pm k x) :
    ∀ g ∈ (gather pm keys).groups, ∃ g' ∈ (gather pm keys').groups,
      (∀ u, u ∈ g.inputs ↔ u ∈ g'.inputs) ∧ (∀ t, t ∈ g.outputs ↔ t ∈ g'.outputs) := by
  intro g hg
  obtain ⟨j, hj⟩ := List.mem_iff_getElem?.mp hg
  obtain ⟨t, ht⟩ := List.exists_mem_of_ne_nil _ ((gather_inv pm keys).outNE j g hj)
  obtain ⟨hin, hout⟩ := gather_group_spec hac hj ht
  obtain ⟨hr, hnl, _⟩ := (hout t).mp ht
  obtain ⟨j', htv'⟩ := gather_assigned hac ((hk t).mp hr) hnl
  obtain ⟨g', _, hg', ht', _⟩ := (gather_inv pm keys').grpOk t j' htv'
  obtain ⟨hin', hout'⟩ := gather_group_spec hac hg' ht'
  exact ⟨g', List.mem_of_getElem? hg', fun u => by rw [hin u, hin' u],
    fun x => by rw [hout x, hout' x, hk x]⟩

theorem gather_order_free (hac : GAcyclic pm) {keys' : List Ty} (hk : ∀ k, k ∈ keys ↔ k ∈ keys') :
    ∀ g ∈ (gather pm keys).groups, ∃ g' ∈ (gather pm keys').groups,
      (∀ u, u ∈ g.inputs ↔ u ∈ g'.inputs) ∧ (∀ t, t ∈ g.outputs ↔ t ∈ g'.outputs) :=
  gather_reach_free hac fun x => by simp only [hk]

/-- distinct groups have distinct counterparts (`gather_groups_distinct`) -/
theorem gather_reach_free_length (hac : GAcyclic pm) {keys' : List Ty}
    (hk : ∀ x, (∃ k ∈ keys, GReach pm k x) ↔ ∃ k ∈ keys', GReach pm k x) :
    (gather pm keys).groups.length ≤ (gather pm keys').groups.length := by
  refine length_le_of_rel (E := fun g g' => ∀ u, u ∈ g.inputs ↔ u ∈ g'.inputs) _ _
    (List.pairwise_iff_getElem.mpr fun i j hi hj hij c h1 h2 => ?_)
    (fun g hg => (gather_reach_free hac hk g hg).imp fun g' h => ⟨h.1, h.2.1⟩)
  exact (gather_groups_distinct (Nat.ne_of_lt hij) (List.getElem?_eq_getElem hi)
    (List.getElem?_eq_getElem hj)).2 (fun u => (h1 u).trans (h2 u).symm)

theorem gather_order_free_length (hac : GAcyclic pm) {keys' : List Ty}
    (hk : ∀ k, k ∈ keys ↔ k ∈ keys') :
    (gather pm keys).groups.length ≤ (gather pm keys').groups.length :=
  gather_reach_free_length hac fun x => by simp only [hk]

end

end WireP.Show
