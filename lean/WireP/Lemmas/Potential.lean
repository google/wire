import WireP.Lemmas.Look
/-! # The potential of the stack machines

Each machine marks a key at most once and pays for a marked key with the weight of its entry.
`rem key w l vis` is the weight still to be paid: that of the elements of `l` whose key is not in
`vis`.  Marking a key lowers it by the weight of its entry (`rem_cons_add_le`), so the weights of
distinct marked keys add up to at most the weight of the map (`sum_wtOf_le`): this covers the step
bound of `Dfs.big` for `solve` and `gather`.  The cycle detector (`AcyclicTerm.lean`) measures its
states with `rem` directly. -/
namespace WireP.AcyclicProofs
open WireV

theorem sum_filter_mono {α : Type} (w : α → Nat) (p q : α → Bool) (l : List α)
    (hpq : ∀ u, q u = true → p u = true) :
    ((l.filter q).map w).sum ≤ ((l.filter p).map w).sum := by
  induction l with
  | nil => simp
  | cons x xs ih =>
    simp only [List.filter_cons]
    cases hq : q x
    · cases hp : p x <;> simp <;> omega
    · have hp := hpq x hq; simp [hp]; omega

theorem sum_filter_drop {α : Type} (w : α → Nat) (p q : α → Bool) (l : List α) (x : α)
    (hpq : ∀ u, q u = true → p u = true) (hp : p x = true) (hq : q x = false) (hm : x ∈ l) :
    ((l.filter q).map w).sum + w x ≤ ((l.filter p).map w).sum := by
  obtain ⟨l1, l2, rfl⟩ := List.append_of_mem hm
  have h1 := sum_filter_mono w p q l1 hpq
  have h2 := sum_filter_mono w p q l2 hpq
  simp only [List.filter_append, List.filter_cons, hp, hq, if_true, Bool.false_eq_true, if_false,
    List.map_append, List.map_cons, List.sum_append, List.sum_cons]
  omega

end WireP.AcyclicProofs

namespace WireP.Potential
open WireV WireP.AcyclicProofs

variable {α : Type} (key : α → Ty) (w : α → Nat) (l : List α)

def rem (vis : List Ty) : Nat :=
  ((l.filter (fun x => !decide (key x ∈ vis))).map w).sum

theorem rem_nil : rem key w l [] = (l.map w).sum := by
  rw [rem, List.filter_eq_self.mpr (by simp)]

theorem rem_cons_le (h : Ty) (vis : List Ty) : rem key w l (h :: vis) ≤ rem key w l vis :=
  sum_filter_mono w _ _ l (by intro u hu; simp at hu ⊢; exact hu.2)

theorem rem_cons_add_le {x : α} {vis : List Ty} (hx : x ∈ l) (hk : key x ∉ vis) :
    rem key w l (key x :: vis) + w x ≤ rem key w l vis :=
  sum_filter_drop w _ _ l x (by intro u hu; simp at hu ⊢; exact hu.2) (by simpa using hk) (by simp) hx

def wtOf {β : Type} (w : Ty × β → Nat) (pm : List (Ty × β)) (u : Ty) : Nat :=
  match look u pm with
  | some v => w (u, v)
  | none => 0

theorem sum_wtOf_add_rem_le {β : Type} (w : Ty × β → Nat) (pm : List (Ty × β)) :
    ∀ ks : List Ty, ks.Nodup →
      (ks.map (wtOf w pm)).sum + rem Prod.fst w pm ks ≤ (pm.map w).sum
  | [], _ => by simp [rem_nil]
  | u :: ks, hnd => by
    have ih := sum_wtOf_add_rem_le w pm ks (List.nodup_cons.mp hnd).2
    have hu : wtOf w pm u + rem Prod.fst w pm (u :: ks) ≤ rem Prod.fst w pm ks := by
      unfold wtOf
      cases hl : look u pm with
      | none => simpa using rem_cons_le Prod.fst w pm u ks
      | some v =>
        have := rem_cons_add_le Prod.fst w pm (look_mem hl) (List.nodup_cons.mp hnd).1
        simp only at this ⊢; omega
    simp only [List.map_cons, List.sum_cons]
    omega

theorem sum_wtOf_le {β : Type} (w : Ty × β → Nat) (pm : List (Ty × β)) {ks : List Ty}
    (hnd : ks.Nodup) : (ks.map (wtOf w pm)).sum ≤ (pm.map w).sum :=
  Nat.le_trans (Nat.le_add_right _ _) (sum_wtOf_add_rem_le w pm ks hnd)

end WireP.Potential
