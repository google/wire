import WireV.Nameable
/-! `unnameable` finds nothing exactly on the types `NameableOk` describes
(`WireP.C01.signature_nameable_iff`). -/
namespace WireP.Nameable
open WireV

mutual
theorem unnameable_none_iff (want : Nat) : (t : UTy) → (unnameable want t = none ↔ NameableOk want t)
  | .named id pkg exported args => by
    rw [unnameable, NameableOk, ← unnameableL_none_iff want args]
    by_cases hp : pkg = want <;> cases exported <;> simp [hp]
  | .comp kids => by rw [unnameable, NameableOk]; exact unnameableL_none_iff want kids
  | .leaf => by simp [unnameable, NameableOk]
theorem unnameableL_none_iff (want : Nat) : (ts : List UTy) → (unnameableL want ts = none ↔ NameableOkL want ts)
  | [] => by simp [unnameableL, NameableOkL]
  | t :: ts => by
    rw [unnameableL, NameableOkL, ← unnameable_none_iff want t, ← unnameableL_none_iff want ts]
    cases unnameable want t <;> simp
end

end WireP.Nameable
