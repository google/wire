import WireV.Show
import Batteries.Data.List.Perm
import WireP.Lemmas.PipelineAcyclic
/-! # `WireV.gather` (C19): the vocabulary of the statements, and `gStep` as a relation

`gStep` pushes the dependencies not yet in its table, as the planner's `svStep` does, so `Step` is
stated with the planner's `missingOf`. -/
namespace WireP.Show
open WireV WireP.Solve

/-- the edges `gather` follows.  The entry of an interface key is the concrete entry, so its
    dependencies are the concrete provider's parameters; `gather` never looks at `pt.t`. -/
def gdep (pm : PMap) (a b : Ty) : Prop :=
  ∃ pt, look a pm = some pt ∧ (∀ i, pt.src ≠ .arg i) ∧ b ∈ depsOf pt.src

inductive GReach (pm : PMap) : Ty → Ty → Prop
  | refl (a : Ty) : GReach pm a a
  | step {a b c : Ty} : gdep pm a b → GReach pm b c → GReach pm a c

def GAcyclic (pm : PMap) : Prop := WellFounded (fun b a => gdep pm a b)

/-- a type that must be supplied from outside -/
def Leaf (pm : PMap) (u : Ty) : Prop :=
  look u pm = none ∨ ∃ pt i, look u pm = some pt ∧ pt.src = .arg i

/-- `u` is one of the inputs that `t` requires -/
def Need (pm : PMap) (t u : Ty) : Prop := GReach pm t u ∧ Leaf pm u

/-- `gather` walks the graph of the cycle detector -/
theorem gdep_iff {pm : PMap} {a b : Ty} : gdep pm a b ↔ b ∈ succOf pm a := by
  constructor
  · rintro ⟨pt, hl, _, hb⟩
    rwa [AcyclicProofs.succOf_of_look hl]
  · intro h
    cases hl : look a pm with
    | none => rw [AcyclicProofs.succOf_of_none hl] at h; cases h
    | some pt =>
      rw [AcyclicProofs.succOf_of_look hl] at h
      exact ⟨pt, hl, fun i e => (by rw [e] at h; cases h), h⟩

theorem GReach.trans {pm a b c} (h1 : GReach pm a b) (h2 : GReach pm b c) : GReach pm a c := by
  induction h1 with
  | refl _ => exact h2
  | step hab _ ih => exact GReach.step hab (ih h2)

theorem GReach.single {pm a b} (h : gdep pm a b) : GReach pm a b := .step h (.refl b)

theorem not_leaf {pm : PMap} {t : Ty} {pt : PT} (hl : look t pm = some pt)
    (hna : ∀ i, pt.src ≠ .arg i) : ¬ Leaf pm t := by
  rintro (h | ⟨pt', i, hl', hs⟩)
  · rw [h] at hl; cases hl
  · rw [hl'] at hl; cases hl; exact hna i hs

theorem need_leaf {pm a u} (h : Leaf pm a) : Need pm a u ↔ u = a := by
  refine ⟨fun ⟨hr, _⟩ => ?_, fun e => by subst e; exact ⟨.refl _, h⟩⟩
  cases hr with
  | refl _ => rfl
  | step hd _ => obtain ⟨pt, hl, hna, _⟩ := hd; exact absurd h (not_leaf hl hna)

theorem need_node {pm : PMap} {t : Ty} {pt : PT} (hl : look t pm = some pt)
    (hna : ∀ i, pt.src ≠ .arg i) (u : Ty) :
    Need pm t u ↔ ∃ a ∈ depsOf pt.src, Need pm a u := by
  constructor
  · rintro ⟨hr, hlf⟩
    cases hr with
    | refl _ => exact absurd hlf (not_leaf hl hna)
    | step hd hr' =>
      obtain ⟨pt', hl', _, hb⟩ := hd
      rw [hl] at hl'; cases hl'
      exact ⟨_, hb, hr', hlf⟩
  · rintro ⟨a, ha, hr, hlf⟩
    exact ⟨.step ⟨pt, hl, hna, ha⟩ hr, hlf⟩

theorem gacyclic_iff {pm : PMap} : GAcyclic pm ↔ ¬ C07.Cyclic (succOf pm) :=
  ⟨fun h => PipelineProofs.not_cyclic_of_wf (Subrelation.wf (fun h => gdep_iff.mpr h) h),
    fun hnc => Subrelation.wf (fun h => gdep_iff.mp h) (PipelineProofs.succOf_wf hnc)⟩

theorem reach_of_greach {pm : PMap} (hcc : ConcClosed pm) {a b : Ty} (h : GReach pm a b) :
    Reach pm a b := by
  induction h with
  | refl _ => exact .refl _
  | @step x _ _ hd _ ih =>
    obtain ⟨pt, hl, _, hb⟩ := hd
    by_cases e : pt.t = x
    · exact .step ⟨pt, hl, Or.inr ⟨e, hb⟩⟩ ih
    · exact .step ⟨pt, hl, Or.inl ⟨e, rfl⟩⟩
        (.step ⟨pt, hcc _ pt hl, Or.inr ⟨rfl, hb⟩⟩ ih)

theorem gacyclic_of_rank (pm : PMap) (rank : Ty → Nat)
    (h : ∀ kv ∈ pm, ∀ u ∈ depsOf kv.2.src, rank u < rank kv.1) : GAcyclic pm := by
  have hsub : ∀ u t, gdep pm t u → rank u < rank t := by
    intro u t ⟨pt, hl, _, hd⟩
    exact h (t, pt) (look_mem hl) u hd
  exact Subrelation.wf (fun {u t} hd => hsub u t hd) (InvImage.wf rank Nat.lt_wfRel.wf)

theorem mem_unionTy {a b : List Ty} {u : Ty} : u ∈ unionTy a b ↔ u ∈ a ∨ u ∈ b := by
  unfold unionTy
  simp only [List.mem_append, List.mem_filter, Bool.not_eq_true', List.contains_eq_mem,
    decide_eq_false_iff_not]
  by_cases h : u ∈ a <;> simp [h]

theorem nodup_unionTy {a b : List Ty} (ha : a.Nodup) (hb : b.Nodup) : (unionTy a b).Nodup := by
  unfold unionTy
  rw [List.nodup_append]
  refine ⟨ha, hb.sublist List.filter_sublist, ?_⟩
  intro x hx y hy e
  subst e
  simp only [List.mem_filter, Bool.not_eq_true', List.contains_eq_mem,
    decide_eq_false_iff_not] at hy
  exact hy.2 hx

theorem sameKeys_iff {a b : List Ty} :
    sameKeys a b = true ↔ a.length = b.length ∧ a ⊆ b := by
  unfold sameKeys
  simp only [Bool.and_eq_true, beq_iff_eq, List.all_eq_true, List.contains_eq_mem,
    decide_eq_true_eq]
  rfl

/-- `sameKeys` compares length and containment, which is "same elements" only for a duplicate-free
    `a` -/
theorem sameKeys_iff_perm {a b : List Ty} (ha : a.Nodup) : sameKeys a b = true ↔ a.Perm b := by
  rw [sameKeys_iff]
  exact ⟨fun ⟨hl, hs⟩ => (List.subperm_of_subset ha hs).perm_of_length_le (Nat.le_of_eq hl.symm),
    fun h => ⟨h.length_eq, h.subset⟩⟩

theorem sameKeys_comm {a b : List Ty} (ha : a.Nodup) (hb : b.Nodup) : sameKeys a b = sameKeys b a :=
  Bool.eq_iff_iff.mpr (by rw [sameKeys_iff_perm ha, sameKeys_iff_perm hb]; exact List.perm_comm)

/-- the inputs `gStep` computes for the group of a new call: the union over its dependencies -/
def insOf (s : GSt) (deps : List Ty) : List Ty :=
  deps.foldl (fun acc a => unionTy acc (inputsOfDep s a)) []

/-- what `gStep` does when `curr` is on top of the stack and `rest` below it -/
inductive Step (pm : PMap) (s : GSt) (curr : Ty) (rest : List Ty) : GSt → Prop
  | pop (v : Option Nat) : look curr s.visited = some v → Step pm s curr rest { s with stk := rest }
  | leaf : look curr s.visited = none → Leaf pm curr →
      Step pm s curr rest { s with stk := rest, visited := (curr, none) :: s.visited }
  | push (pt : PT) : look curr s.visited = none → look curr pm = some pt →
      (∀ i, pt.src ≠ .arg i) → missingOf s.visited (depsOf pt.src) ≠ [] →
      Step pm s curr rest
        { s with stk := (missingOf s.visited (depsOf pt.src)).reverse ++ curr :: rest }
  | group (pt : PT) : look curr s.visited = none → look curr pm = some pt →
      (∀ i, pt.src ≠ .arg i) → missingOf s.visited (depsOf pt.src) = [] →
      Step pm s curr rest (addToGroup s curr (insOf s (depsOf pt.src)) rest)

theorem step_eq {pm s s'} {curr : Ty} {rest : List Ty} (hs : s.stk = curr :: rest)
    (h : Step pm s curr rest s') : gStep pm s = some s' := by
  cases h with
  | pop v hv => simp [gStep, hs, hv]
  | leaf hv hlf =>
    rcases hlf with hl | ⟨pt, i, hl, hsrc⟩
    · simp [gStep, hs, hv, hl]
    · simp [gStep, hs, hv, hl, hsrc]
  | push pt hv hl hna hm =>
    unfold missingOf at hm
    cases hsrc : pt.src with
    | arg i => exact absurd hsrc (hna i)
    | val v => rw [hsrc] at hm; simp [depsOf] at hm
    | prov p => rw [hsrc] at hm; simp [gStep, hs, hv, hl, hsrc, missingOf, hm]
    | fld f => rw [hsrc] at hm; simp [gStep, hs, hv, hl, hsrc, missingOf, hm]
  | group pt hv hl hna hm =>
    unfold missingOf at hm
    cases hsrc : pt.src with
    | arg i => exact absurd hsrc (hna i)
    | val v => simp [gStep, hs, hv, hl, hsrc, insOf, depsOf]
    | prov p => rw [hsrc] at hm; simp [gStep, hs, hv, hl, hsrc, insOf, hm]
    | fld f => rw [hsrc] at hm; simp [gStep, hs, hv, hl, hsrc, insOf, hm]

theorem step_total (pm : PMap) (s : GSt) (curr : Ty) (rest : List Ty) :
    ∃ s', Step pm s curr rest s' := by
  cases hv : look curr s.visited with
  | some v => exact ⟨_, .pop v hv⟩
  | none =>
    cases hl : look curr pm with
    | none => exact ⟨_, .leaf hv (Or.inl hl)⟩
    | some pt =>
      by_cases hna : ∀ i, pt.src ≠ .arg i
      · by_cases hm : missingOf s.visited (depsOf pt.src) = []
        · exact ⟨_, .group pt hv hl hna hm⟩
        · exact ⟨_, .push pt hv hl hna hm⟩
      · obtain ⟨i, hi⟩ : ∃ i, pt.src = .arg i := by
          cases hsrc : pt.src with
          | arg i => exact ⟨i, rfl⟩
          | _ => exact absurd (fun i => by simp [hsrc]) hna
        exact ⟨_, .leaf hv (Or.inr ⟨pt, i, hl, hi⟩)⟩

theorem gStep_none {pm s} : gStep pm s = none ↔ s.stk = [] := by
  constructor
  · intro h
    cases hs : s.stk with
    | nil => rfl
    | cons curr rest =>
      obtain ⟨s', hs'⟩ := step_total pm s curr rest
      rw [step_eq hs hs'] at h; cases h
  · intro h; simp [gStep, h]

theorem gStep_cases {pm s s'} (h : gStep pm s = some s') :
    ∃ curr rest, s.stk = curr :: rest ∧ Step pm s curr rest s' := by
  cases hs : s.stk with
  | nil => rw [gStep_none.mpr hs] at h; cases h
  | cons curr rest =>
    obtain ⟨s'', hs''⟩ := step_total pm s curr rest
    have := step_eq hs hs''
    rw [h] at this; cases this; exact ⟨curr, rest, rfl, hs''⟩

/-- only group `i` changes: it is a group with the same input set, which gets `curr` as one more
    output, or, if there is none, a new last group -/
theorem addToGroup_spec (s : GSt) (curr : Ty) (ins rest : List Ty) :
    ∃ i gnew, (addToGroup s curr ins rest).visited = (curr, some i) :: s.visited ∧
      (addToGroup s curr ins rest).stk = rest ∧
      (∀ j, (addToGroup s curr ins rest).groups[j]? = if j = i then some gnew else s.groups[j]?) ∧
      ((∃ g, s.groups[i]? = some g ∧ sameKeys g.inputs ins = true ∧
          gnew = { g with outputs := g.outputs ++ [curr] }) ∨
       (s.groups[i]? = none ∧ (∀ g ∈ s.groups, sameKeys g.inputs ins = false) ∧
          gnew = { inputs := ins, outputs := [curr] })) := by
  unfold addToGroup
  cases hf : s.groups.findIdx? (fun g => sameKeys g.inputs ins) with
  | some i =>
    obtain ⟨hi, hp, _⟩ := List.findIdx?_eq_some_iff_getElem.mp hf
    have hgi := List.getElem?_eq_getElem hi
    refine ⟨i, _, rfl, rfl, fun j => ?_, .inl ⟨s.groups[i], hgi, hp, rfl⟩⟩
    simp only [List.getElem?_modify]
    by_cases e : j = i
    · subst e; simp [hgi]
    · have e' : ¬ i = j := fun x => e x.symm
      simp only [e, e', if_false]
      cases s.groups[j]? <;> rfl
  | none =>
    exact ⟨_, _, rfl, rfl, fun j => getElem?_append_singleton _ _ j,
      .inr ⟨by simp, List.findIdx?_eq_none_iff.mp hf, rfl⟩⟩

/-- `gIter` that fails (`none`) when the stack runs out before the fuel -/
def iterO (pm : PMap) : Nat → GSt → Option GSt
  | 0, s => some s
  | n + 1, s => (gStep pm s).bind (iterO pm n)

theorem iterO_eq (pm : PMap) : iterO pm = Iter.runO (gStep pm) :=
  Iter.runO_unique (fun _ => rfl) (fun _ _ => rfl)

theorem gIter_eq (pm : PMap) : gIter pm = Iter.run (gStep pm) :=
  Iter.run_unique (fun _ => rfl) (fun n s => by rw [gIter]; cases gStep pm s <;> rfl)

end WireP.Show
