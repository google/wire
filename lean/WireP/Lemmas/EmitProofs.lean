import WireV.Emit
/-! For C03 / C04: `exec` on `emitFrom`'s output under every fault plan.  One equation for a step, iterated over a prefix
in which no provider fails: the success run (C04) is the prefix that is the whole list, the failing run (C03) a prefix
followed by one failing step.  `clPos_eq` is the closed form to which the `List` lemmas on `zipIdx`, `filter`, `range'`
apply. -/
namespace WireP.EmitProofs
open WireV

def isFn (c : Call) : Bool := c.kind == CallKind.func

def fnPos (pos : Nat) : List Call → List Nat
  | [] => []
  | c :: cs => (if isFn c then [pos] else []) ++ fnPos (pos + 1) cs

/-- positions, numbered from `pos`, of the provider calls that return a cleanup, in acquisition order -/
def clPos (pos : Nat) : List Call → List Nat
  | [] => []
  | c :: cs => (if isFn c && c.hasCleanup then [pos] else []) ++ clPos (pos + 1) cs

/-- `fails` hits no provider call of `cs` that can return an error -/
def NoFail (fails : Nat → Bool) (pos : Nat) : List Call → Prop
  | [] => True
  | c :: cs => ¬ (isFn c = true ∧ c.hasErr = true ∧ fails pos = true) ∧ NoFail fails (pos + 1) cs

theorem fnPos_append (pos : Nat) (a b : List Call) :
    fnPos pos (a ++ b) = fnPos pos a ++ fnPos (pos + a.length) b := by
  induction a generalizing pos with
  | nil => rfl
  | cons x xs ih => simp only [List.cons_append, fnPos, ih, List.length_cons, List.append_assoc, Nat.add_assoc, Nat.add_comm 1]

theorem clPos_eq (pos : Nat) (cs : List Call) :
    clPos pos cs = ((cs.zipIdx pos).filter (fun ci => isFn ci.1 && ci.1.hasCleanup)).map (·.2) := by
  induction cs generalizing pos with
  | nil => rfl
  | cons c cs ih => rw [clPos, ih, List.zipIdx_cons, List.filter_cons]; split <;> rfl

theorem clPos_append (pos : Nat) (a b : List Call) :
    clPos pos (a ++ b) = clPos pos a ++ clPos (pos + a.length) b := by
  simp only [clPos_eq, List.zipIdx_append, List.filter_append, List.map_append]

theorem mem_clPos (pos : Nat) (cs : List Call) (p : Nat) :
    p ∈ clPos pos cs ↔ ∃ c, cs[p - pos]? = some c ∧ pos ≤ p ∧ isFn c = true ∧ c.hasCleanup = true := by
  simp only [clPos_eq, List.mem_map, List.mem_filter, Prod.exists, List.mk_mem_zipIdx_iff_le_and_getElem?_sub,
    Bool.and_eq_true]
  exact ⟨fun ⟨c, _, ⟨⟨h1, h2⟩, h3⟩, h⟩ => h ▸ ⟨c, h2, h1, h3⟩, fun ⟨c, h2, h1, h3⟩ => ⟨c, p, ⟨⟨h1, h2⟩, h3⟩, rfl⟩⟩

theorem clPos_lt (pos : Nat) (cs : List Call) : ∀ p ∈ clPos pos cs, pos ≤ p ∧ p < pos + cs.length := by
  intro p hp
  obtain ⟨c, hc, hle, _⟩ := (mem_clPos pos cs p).mp hp
  have := (List.getElem?_eq_some_iff.mp hc).1
  omega

theorem clPos_sorted (pos : Nat) (cs : List Call) : (clPos pos cs).Pairwise (· < ·) := by
  rw [clPos_eq]
  have : ((cs.zipIdx pos).map (·.2)).Pairwise (· < ·) := by
    rw [List.zipIdx_map_snd]; exact List.pairwise_lt_range'
  exact this.sublist (List.filter_sublist.map _)

theorem emitFrom_acq (sc : Bool) (pos : Nat) (acq : List Nat) (cs : List Call) :
    (emitFrom sc pos acq cs).2 = acq ++ clPos pos cs := by
  induction cs generalizing pos acq with
  | nil => simp [emitFrom, clPos]
  | cons c cs ih =>
    simp only [emitFrom, clPos, ih]
    split <;> simp [isFn, *]

variable {fails : Nat → Bool} {sc : Bool} {closure : Option (List Nat)}

theorem exec_emitFrom_cons (pos : Nat) (acq : List Nat) (c : Call) (cs : List Call) :
    exec fails closure (emitFrom sc pos acq (c :: cs)).1 =
      if isFn c = true ∧ c.hasErr = true ∧ fails pos = true then
        (Ev.call pos :: acq.reverse.map Ev.cleanup, Outcome.failed pos sc)
      else
        let r := exec fails closure (emitFrom sc (pos + 1) (acq ++ clPos pos [c]) cs).1
        ((fnPos pos [c]).map Ev.call ++ r.1, r.2) := by
  cases hk : c.kind == CallKind.func
  · simp [emitFrom, exec, isFn, fnPos, clPos, hk]
  · cases he : c.hasErr <;> cases hc : c.hasCleanup <;> simp [emitFrom, exec, isFn, fnPos, clPos, hk, he, hc]

theorem exec_emitFrom_append (pos : Nat) (acq : List Nat) (pre rest : List Call) (h : NoFail fails pos pre) :
    exec fails closure (emitFrom sc pos acq (pre ++ rest)).1 =
      let r := exec fails closure (emitFrom sc (pos + pre.length) (acq ++ clPos pos pre) rest).1
      ((fnPos pos pre).map Ev.call ++ r.1, r.2) := by
  induction pre generalizing pos acq with
  | nil => simp [fnPos, clPos]
  | cons x xs ih =>
    rw [List.cons_append, exec_emitFrom_cons, if_neg h.1, ih _ _ h.2]
    simp only [fnPos, clPos, List.append_nil, List.map_append, List.append_assoc, List.length_cons,
      Nat.add_assoc, Nat.add_comm 1]

/-- whatever the fault plan, a run fails or returns the closure it was given -/
theorem exec_outcome (fails : Nat → Bool) (closure : Option (List Nat)) : ∀ steps : List EStep,
    (exec fails closure steps).2 = .ok closure ∨ ∃ p b, (exec fails closure steps).2 = .failed p b
  | [] => .inl rfl
  | s :: ss => by
    have ih := exec_outcome fails closure ss
    simp only [exec]
    split
    · split
      · exact .inr ⟨_, _, rfl⟩
      · exact ih
    · exact ih

theorem sigErrors_eq_nil_iff (sc se : Bool) (calls : List Call) :
    sigErrors sc se calls = [] ↔
      ∀ c ∈ calls, (c.hasCleanup = true → sc = true) ∧ (c.hasErr = true → se = true) := by
  have : (∀ c ∈ calls, (c.hasCleanup = true → sc = true) ∧ (c.hasErr = true → se = true)) ↔
      ∀ ci ∈ calls.zipIdx, (ci.1.hasCleanup = true → sc = true) ∧ (ci.1.hasErr = true → se = true) := by
    conv => lhs; rw [← List.zipIdx_map_fst 0 calls]
    simp only [List.forall_mem_map]
  rw [sigErrors, List.flatMap_eq_nil_iff, this]
  exact forall₂_congr fun ci _ => by simp

end WireP.EmitProofs
