import WireV.Solve
import WireP.Lemmas.Look
/-! # Definitions shared by the planner proofs (C02 / C06 / C08 / C11) -/
namespace WireP.Solve
open WireV

/-- the dependency relation the planner follows: a binding key depends on its concrete type,
    a concrete key on the parameters of its provider / the parent of its field -/
def dep (pm : PMap) (t u : Ty) : Prop :=
  ∃ pt, look t pm = some pt ∧ ((pt.t ≠ t ∧ u = pt.t) ∨ (pt.t = t ∧ u ∈ depsOf pt.src))

inductive Reach (pm : PMap) : Ty → Ty → Prop
  | refl (a : Ty) : Reach pm a a
  | step {a b c : Ty} : dep pm a b → Reach pm b c → Reach pm a c

/-- acyclicity (established by `verifyAcyclic`, C07), in the form the induction needs -/
def Acyclic (pm : PMap) : Prop := WellFounded (fun u t => dep pm t u)

/-- `.arg` entries ⊆ `given` (`GivenArgs` is the converse inclusion) -/
def ArgsGiven (pm : PMap) (given : List Ty) : Prop :=
  ∀ t pt i, look t pm = some pt → pt.t = t → pt.src = .arg i → t ∈ given

/-- the concrete type of every entry is itself a key, with the same entry (true of the maps
    `buildProviderMap` returns: `WireP.PMapInv.bpm_concClosed`) -/
def ConcClosed (pm : PMap) : Prop := ∀ k pt, look k pm = some pt → look pt.t pm = some pt

/-- true of the maps `buildProviderMap` returns: `WireP.PMapInv.bpm_srcTotal` -/
def SrcTotal (pm : PMap) (sm : SMap) : Prop := ∀ k, (look k pm).isSome ↔ (look k sm).isSome

/-- the state in which `solve` inspects the machine -/
def final (pm : PMap) (sm : SMap) (given : List Ty) (out : Ty) : SvSt :=
  svIter pm sm given.length (svFuel pm) (svInit given out)

/-- the type held by local variable `n`: injector parameters first, then one per call -/
def produced (given : List Ty) (calls : List Call) (n : Nat) : Option Ty :=
  if n < given.length then given[n]? else (calls[n - given.length]?).map (·.out)

def resolveTy (pm : PMap) (t : Ty) : Ty :=
  match look t pm with
  | some pt => pt.t
  | none => t

/-- the standing hypotheses of the planner theorems (no proof uses `keysNodup`) -/
structure H (pm : PMap) (given : List Ty) : Prop where
  acyclic : Acyclic pm
  argsGiven : ArgsGiven pm given
  concClosed : ConcClosed pm
  keysNodup : (pm.map (·.1)).Nodup
  givenNodup : given.Nodup

/-- extra hypothesis of the index-soundness theorems: no given type is the key of an interface
    binding -/
def GivenSelf (pm : PMap) (given : List Ty) : Prop := ∀ g ∈ given, resolveTy pm g = g

/-- extra hypothesis of the completeness theorems: a given type has no dependencies in the map
    (true of `buildProviderMap args …` with `given = args`: `GivenArgs.leaf`) -/
def GivenLeaf (pm : PMap) (given : List Ty) : Prop := ∀ g ∈ given, ∀ u, ¬ dep pm g u

/-- what `buildProviderMap` guarantees: `given` ⊆ `.arg` entries -/
def GivenArgs (pm : PMap) (given : List Ty) : Prop :=
  ∀ g ∈ given, ∃ i, look g pm = some ⟨g, .arg i⟩

theorem look_cons {β : Type} (u k : Ty) (v : β) (l : List (Ty × β)) :
    look u ((k, v) :: l) = if u = k then some v else look u l :=
  WireV.look_cons u k v l

def missingOf {β : Type} (idx : List (Ty × β)) (deps : List Ty) : List Ty :=
  deps.filter (fun a => (look a idx).isNone)

theorem missing_nil {β : Type} {idx : List (Ty × β)} {deps : List Ty} (h : missingOf idx deps = []) :
    ∀ a ∈ deps, (look a idx).isSome := by
  intro a ha
  have := List.filter_eq_nil_iff.mp h a ha
  cases hx : look a idx with
  | none => simp [hx] at this
  | some _ => rfl

theorem missing_sub {β : Type} {idx : List (Ty × β)} {deps : List Ty} {a : Ty}
    (h : a ∈ missingOf idx deps) : a ∈ deps ∧ look a idx = none :=
  (List.mem_filter.mp h).imp_right Option.isNone_iff_eq_none.mp

theorem Reach.trans {pm a b c} (h1 : Reach pm a b) (h2 : Reach pm b c) : Reach pm a c := by
  induction h1 with
  | refl _ => exact h2
  | step hab _ ih => exact Reach.step hab (ih h2)

theorem Reach.snoc {pm a b c} (h1 : Reach pm a b) (h2 : dep pm b c) : Reach pm a c :=
  h1.trans (Reach.step h2 (Reach.refl c))

theorem resolveTy_some {pm : PMap} {t : Ty} {pt : PT} (h : look t pm = some pt) :
    resolveTy pm t = pt.t := by simp [resolveTy, h]

theorem resolveTy_none {pm : PMap} {t : Ty} (h : look t pm = none) :
    resolveTy pm t = t := by simp [resolveTy, h]

theorem resolveTy_conc {pm : PMap} (hcc : ConcClosed pm) {k : Ty} {pt : PT}
    (h : look k pm = some pt) : resolveTy pm pt.t = pt.t := by
  simp [resolveTy, hcc k pt h]

theorem produced_lt {given : List Ty} {calls : List Call} {n : Nat} {t : Ty}
    (h : produced given calls n = some t) : n < given.length + calls.length := by
  unfold produced at h
  split at h
  · omega
  · cases hc : calls[n - given.length]? with
    | none => simp [hc] at h
    | some c =>
      have := (List.getElem?_eq_some_iff.mp hc).1
      omega

theorem produced_append {given : List Ty} {calls : List Call} {n : Nat} {t : Ty} (cs : List Call)
    (h : produced given calls n = some t) : produced given (calls ++ cs) n = some t := by
  have hlt := produced_lt h
  unfold produced at h ⊢
  split
  · simpa [*] using h
  · rename_i hn
    simp only [hn, if_false] at h
    rw [List.getElem?_append_left (by omega)]
    exact h

theorem produced_new (given : List Ty) (calls : List Call) (c : Call) :
    produced given (calls ++ [c]) (given.length + calls.length) = some c.out := by
  unfold produced
  simp

theorem produced_given {given : List Ty} {calls : List Call} {i : Nat} {g : Ty}
    (h : given[i]? = some g) : produced given calls i = some g := by
  have := (List.getElem?_eq_some_iff.mp h).1
  unfold produced
  rw [if_pos this, h]

theorem GivenLeaf.self {pm given} (h : GivenLeaf pm given) : GivenSelf pm given := by
  intro g hg
  cases hl : look g pm with
  | none => exact resolveTy_none hl
  | some pt =>
    rw [resolveTy_some hl]
    by_cases e : pt.t = g
    · exact e
    · exact absurd ⟨pt, hl, Or.inl ⟨e, rfl⟩⟩ (h g hg pt.t)

theorem GivenArgs.leaf {pm given} (h : GivenArgs pm given) : GivenLeaf pm given := by
  intro g hg u ⟨pt, hl, hd⟩
  obtain ⟨i, hi⟩ := h g hg
  rw [hi] at hl
  cases hl
  rcases hd with ⟨h1, _⟩ | ⟨_, h2⟩
  · exact h1 rfl
  · simp [depsOf] at h2

-- Criteria that `decide` can check, for concrete maps.
theorem acyclic_of_rank (pm : PMap) (rank : Ty → Nat)
    (h : ∀ kv ∈ pm, (kv.2.t ≠ kv.1 → rank kv.2.t < rank kv.1) ∧
                    (kv.2.t = kv.1 → ∀ u ∈ depsOf kv.2.src, rank u < rank kv.1)) : Acyclic pm := by
  have hsub : ∀ u t, dep pm t u → rank u < rank t := by
    intro u t ⟨pt, hl, hd⟩
    have hm := h (t, pt) (look_mem hl)
    rcases hd with ⟨h1, h2⟩ | ⟨h1, h2⟩
    · subst h2; exact hm.1 h1
    · exact hm.2 h1 u h2
  exact Subrelation.wf (fun {u t} hd => hsub u t hd) (InvImage.wf rank Nat.lt_wfRel.wf)

def isArg : Payload → Bool
  | .arg _ => true
  | _ => false

theorem argsGiven_of_forall (pm : PMap) (given : List Ty)
    (h : ∀ kv ∈ pm, isArg kv.2.src = true → kv.2.t = kv.1 → kv.1 ∈ given) : ArgsGiven pm given := by
  intro t pt i hl ht hs
  exact h (t, pt) (look_mem hl) (by simp [hs, isArg]) ht

theorem concClosed_of_forall (pm : PMap)
    (h : ∀ kv ∈ pm, look kv.1 pm = some kv.2 → look kv.2.t pm = some kv.2) : ConcClosed pm :=
  fun k pt hl => h (k, pt) (look_mem hl) hl

theorem givenLeaf_of_forall (pm : PMap) (given : List Ty)
    (h : ∀ kv ∈ pm, kv.1 ∈ given → kv.2.t = kv.1 ∧ depsOf kv.2.src = []) : GivenLeaf pm given := by
  intro g hg u ⟨pt, hl, hd⟩
  have := h (g, pt) (look_mem hl) hg
  rcases hd with ⟨h1, _⟩ | ⟨_, h2⟩
  · exact h1 this.1
  · rw [this.2] at h2; cases h2

end WireP.Solve
