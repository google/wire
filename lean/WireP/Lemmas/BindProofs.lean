import WireV.Bind
/-! The method-set rule of `WireV/Bind.lean`; `OwnDistinct` is used by the statements of `WireP/Props/C11.lean`. -/
namespace WireP.Bind
open WireV

theorem implementsB_iff (env : BEnv) (t : BTy) (i : Nat) :
    implementsB env t i = true ↔ ∀ ns ∈ env.imeths i, ns ∈ methodSet env t := by
  simp [implementsB, List.all_eq_true]

/-- declared on `c`, or promoted from one embedded field -/
theorem mem_methodSetNamed {env : BEnv} {c : Nat} {viaPtr : Bool} {m : BMethod} :
    m ∈ methodSetNamed env c viaPtr ↔
    (m ∈ env.meths c ∧ (m.ptrRecv = false ∨ viaPtr = true)) ∨
    (∃ e ∈ env.embeds c, m ∈ env.meths e.1 ∧ (m.ptrRecv = false ∨ viaPtr = true ∨ e.2 = true) ∧
      (∀ o ∈ env.meths c, o.name ≠ m.name) ∧ uniqueAmong env (env.embeds c) m.name = true) := by
  simp only [methodSetNamed, List.mem_append, List.mem_filter, List.mem_flatMap, promotedOf, Bool.or_eq_true,
    Bool.not_eq_true', Bool.and_eq_true, List.contains_eq_mem, List.mem_map, decide_eq_false_iff_not, not_exists,
    not_and, or_assoc]
  exact or_congr_right ⟨fun ⟨⟨e, he, hme, hr⟩, hs, hu⟩ => ⟨e, he, hme, hr, hs, hu⟩,
    fun ⟨e, he, hme, hr, hs, hu⟩ => ⟨⟨e, he, hme, hr⟩, hs, hu⟩⟩

/-- Go's rule that a type declares a method name once -/
def OwnDistinct (env : BEnv) (c : Nat) : Prop :=
  ∀ o ∈ env.meths c, ∀ m ∈ env.meths c, o.name = m.name → o = m

/-- not even through an embedded field: the own declaration shadows every promoted one -/
theorem value_methodSet_no_ptr_recv {env : BEnv} {c : Nat} {m : BMethod} (hd : OwnDistinct env c)
    (h : m ∈ methodSetNamed env c false) : ∀ o ∈ env.meths c, o.name = m.name → o.ptrRecv = false := by
  intro o ho hname
  rcases mem_methodSetNamed.mp h with ⟨hm, hr⟩ | ⟨e, _, _, _, hsh, _⟩
  · have := hd o ho m hm hname
    subst this
    simpa using hr
  · exact absurd hname (hsh o ho)

theorem methodSetNamed_mono {env : BEnv} {c : Nat} {m : BMethod}
    (h : m ∈ methodSetNamed env c false) : m ∈ methodSetNamed env c true :=
  mem_methodSetNamed.mpr <| (mem_methodSetNamed.mp h).imp (And.imp_right fun _ => .inr rfl)
    fun ⟨e, he, hme, _, hs⟩ => ⟨e, he, hme, .inr (.inl rfl), hs⟩

theorem implements_value_no_ptr_recv {env : BEnv} {k c : Nat} (hd : OwnDistinct env c)
    (himp : implementsB env (.named c) k = true) :
    ∀ ns ∈ env.imeths k, ∀ o ∈ env.meths c, o.name = ns.1 → o.ptrRecv = false := by
  intro ns hns o ho hname
  have hmem := (implementsB_iff env (.named c) k).1 himp ns hns
  simp only [methodSet, List.mem_map] at hmem
  obtain ⟨m, hm, rfl⟩ := hmem
  exact value_methodSet_no_ptr_recv hd hm o ho hname

/-- the last step common to `processBind` and `processIValue`: a test `bad` of their own, then `types.Implements` -/
theorem accept_ok_iff {env : BEnv} {k : Nat} {q i p : BTy} {bad : Bool} {e : BindErr} :
    (if bad then .error e else if !implementsB env q k then .error .notImpl else Except.ok (BTy.iface k, q))
        = .ok (i, p) ↔ bad = false ∧ implementsB env q k = true ∧ i = .iface k ∧ p = q := by
  cases bad <;> cases implementsB env q k <;> simp [eq_comm]

end WireP.Bind
