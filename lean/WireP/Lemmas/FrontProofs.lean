import WireV.Front
/-! For C12: `List.mapM` in `Except` (`mapM_eq_ok`), then `checkField` and `structArgs` of `WireV/Front.lean` as
equations in terms of `List.find?` by name. -/
namespace WireP.FrontProofs
open WireV

/-- not in core; for the `decide` examples of `WireP/Props/C12.lean` -/
instance instDecEqExcept {ε α : Type} [DecidableEq ε] [DecidableEq α] : DecidableEq (Except ε α)
  | .ok a, .ok b => if h : a = b then isTrue (by rw [h]) else isFalse (fun h' => h (by cases h'; rfl))
  | .error a, .error b => if h : a = b then isTrue (by rw [h]) else isFalse (fun h' => h (by cases h'; rfl))
  | .ok _, .error _ => isFalse (fun h => by cases h)
  | .error _, .ok _ => isFalse (fun h => by cases h)

theorem mapM_eq_ok {α β ε : Type} {f : α → Except ε β} {l : List α} {r : List β} :
    l.mapM f = .ok r ↔ l.map f = r.map .ok := by
  induction l generalizing r with
  | nil => cases r <;> simp [pure, Except.pure]
  | cons a l ih =>
    rw [List.mapM_cons]
    cases r with
    | nil => cases f a <;> cases l.mapM f <;> simp [bind, Except.bind, pure, Except.pure]
    | cons b r =>
      rw [List.map_cons, List.map_cons, List.cons.injEq, ← ih]
      cases f a <;> cases l.mapM f <;> simp [bind, Except.bind, pure, Except.pure, eq_comm]

theorem mapM_ok_get {α β ε : Type} {f : α → Except ε β} {l : List α} {r : List β} (h : l.mapM f = .ok r) :
    r.length = l.length ∧ ∀ (i : Nat) a b, l[i]? = some a → r[i]? = some b → f a = .ok b := by
  have h := mapM_eq_ok.mp h
  refine ⟨by simpa using (congrArg List.length h).symm, fun i a b ha hb => ?_⟩
  simpa [ha, hb] using congrArg (·[i]?) h

theorem mapM_ok_mem {α β ε : Type} {f : α → Except ε β} {l : List α} {r : List β} (h : l.mapM f = .ok r)
    {b : β} (hb : b ∈ r) : ∃ a ∈ l, f a = .ok b := by
  have : Except.ok b ∈ l.map f := mapM_eq_ok.mp h ▸ List.mem_map_of_mem hb
  simpa using this

theorem mapM_error_of_mem {α β ε : Type} {f : α → Except ε β} {l : List α} {a : α} (ha : a ∈ l)
    (he : ∃ e, f a = .error e) : ∃ e, l.mapM f = .error e := by
  cases h : l.mapM f with
  | error e => exact ⟨e, rfl⟩
  | ok r =>
    obtain ⟨e, he⟩ := he
    have : f a ∈ r.map .ok := mapM_eq_ok.mp h ▸ List.mem_map_of_mem ha
    simp [he] at this

theorem mapM_error_first {α β ε : Type} {f : α → Except ε β} {pre : List α} {a : α} (post : List α) {e : ε}
    (hpre : ∀ x ∈ pre, ∃ b, f x = .ok b) (ha : f a = .error e) :
    (pre ++ a :: post).mapM f = .error e := by
  induction pre with
  | nil => rw [List.nil_append, List.mapM_cons, ha]; rfl
  | cons x rest ih =>
    obtain ⟨b, hb⟩ := hpre x (List.mem_cons_self ..)
    rw [List.cons_append, List.mapM_cons, hb, ih (fun y hy => hpre y (List.mem_cons_of_mem _ hy))]
    rfl

theorem checkField_blank (fs : List FieldDecl) : checkField fs (.str "_") = .error (.notField "_") := by
  have : fs.find? (fun f => f.name == "_" && "_" != "_") = none := List.find?_eq_none.mpr (by simp)
  simp only [checkField, this]

theorem checkField_str (fs : List FieldDecl) {s : String} (hs : s ≠ "_") :
    checkField fs (.str s) =
      match fs.find? (·.name == s) with
      | none => .error (.notField s)
      | some f => if f.prevented then .error (.prevented s) else .ok f := by
  simp only [checkField, bne_iff_ne.mpr hs, Bool.and_true]; rfl

theorem checkField_ok_iff {fs : List FieldDecl} {a : FieldArg} {f : FieldDecl} :
    checkField fs a = .ok f ↔
      a = .str f.name ∧ fs.find? (·.name == f.name) = some f ∧ f.prevented = false ∧ f.name ≠ "_" := by
  constructor
  · intro h
    cases a with
    | other => cases h
    | str s =>
      by_cases hs : s = "_"
      · rw [hs, checkField_blank] at h; cases h
      · rw [checkField_str fs hs] at h
        split at h
        · cases h
        · rename_i g hg
          split at h <;> cases h
          rename_i hp
          have hn : f.name = s := by simpa using List.find?_some hg
          subst hn
          exact ⟨rfl, hg, by simpa using hp, hs⟩
  · rintro ⟨rfl, hfind, hp, hb⟩
    simp [checkField_str fs hb, hfind, hp]

theorem checkField_ok_name {fs : List FieldDecl} {a : FieldArg} {f : FieldDecl} (h : checkField fs a = .ok f) :
    a = FieldArg.str f.name ∧ f ∈ fs ∧ f.prevented = false ∧ f.name ≠ "_" :=
  have ⟨h1, h2, h3⟩ := checkField_ok_iff.mp h
  ⟨h1, List.mem_of_find?_eq_some h2, h3⟩

theorem checkField_exact {fs : List FieldDecl} {s : String} {f : FieldDecl}
    (h : checkField fs (.str s) = .ok f) :
    f ∈ fs ∧ f.name = s ∧ f.prevented = false ∧ f.name ≠ "_" := by
  obtain ⟨h1, h2, h3⟩ := checkField_ok_name h
  cases h1
  exact ⟨h2, rfl, h3⟩

theorem structArgs_named_eq {args : List FieldArg} (fs : List FieldDecl) (hall : allFields args = false) :
    structArgs fs args = args.mapM (structField fs) := by
  simp [structArgs, hall]

theorem structArgs_star_eq (fs : List FieldDecl) :
    structArgs fs [.str "*"] =
      match fs.find? (fun f => decide (f.prevented = false ∧ f.name ≠ "_" ∧ f.hidden = true)) with
      | some f => .error (.hidden f.name)
      | none => .ok (fs.filter (fun f => !f.prevented && f.name != "_")) := by
  have h : allFields [.str "*"] = true := by decide
  have : (fun f : FieldDecl => decide ((!f.prevented && f.name != "_") = true ∧ f.hidden = true)) =
      fun f => decide (f.prevented = false ∧ f.name ≠ "_" ∧ f.hidden = true) := by
    funext f; simp [and_assoc]
  simp only [structArgs, h, if_true, List.find?_filter, this]
  rfl

theorem structArgs_star {fs sel : List FieldDecl} :
    structArgs fs [.str "*"] = .ok sel ↔
      sel = fs.filter (fun f => !f.prevented && f.name != "_") ∧ ∀ f ∈ sel, f.hidden = false := by
  rw [structArgs_star_eq]
  split
  · rename_i g hg
    have hp := List.find?_some hg
    simp only [decide_eq_true_eq] at hp
    simp only [reduceCtorEq, false_iff, not_and]
    rintro rfl hall
    have := hall g (List.mem_filter.mpr ⟨List.mem_of_find?_eq_some hg, by simp [hp]⟩)
    simp [hp] at this
  · rename_i hg
    simp only [Except.ok.injEq]
    refine ⟨fun h => h ▸ ⟨rfl, fun f hf => ?_⟩, fun h => h.1.symm⟩
    obtain ⟨hfs, hsel⟩ := List.mem_filter.mp hf
    simp only [Bool.and_eq_true, Bool.not_eq_true', bne_iff_ne] at hsel
    simpa [hsel] using List.find?_eq_none.mp hg f hfs

theorem fieldsOfArgs_ok_len {fs : List FieldDecl} {args : List FieldArg} {sel : List FieldDecl}
    (h : fieldsOfArgs fs args = .ok sel) : args.length ≤ fs.length := by
  simp only [fieldsOfArgs] at h
  split at h
  · cases h
  · omega

end WireP.FrontProofs
