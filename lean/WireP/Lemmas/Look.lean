import WireV.Basic
import WireP.Lemmas.ListAux
/-! # `WireV.look`: association lists in which the first entry of a key wins -/
namespace WireV

variable {β : Type}

@[simp] theorem look_nil (t : Ty) : look t ([] : List (Ty × β)) = none := rfl

theorem look_cons (t k : Ty) (v : β) (l : List (Ty × β)) :
    look t ((k, v) :: l) = if t = k then some v else look t l := rfl

theorem look_cons_self (k : Ty) (v : β) (l : List (Ty × β)) : look k ((k, v) :: l) = some v :=
  if_pos rfl

theorem look_cons_ne {t k : Ty} (v : β) (l : List (Ty × β)) (h : t ≠ k) :
    look t ((k, v) :: l) = look t l :=
  if_neg h

theorem look_eq_none_iff {t : Ty} {l : List (Ty × β)} : look t l = none ↔ t ∉ l.map (·.1) := by
  induction l with
  | nil => simp
  | cons x l ih =>
    obtain ⟨k, v⟩ := x
    by_cases h : t = k <;> simp [look_cons, h, ih]

theorem look_isSome_iff {t : Ty} {l : List (Ty × β)} : (look t l).isSome ↔ t ∈ l.map (·.1) := by
  rw [← Option.ne_none_iff_isSome, Ne, look_eq_none_iff, Decidable.not_not]

theorem look_mem {t : Ty} {v : β} {l : List (Ty × β)} : look t l = some v → (t, v) ∈ l := by
  induction l with
  | nil => nofun
  | cons x l ih =>
    obtain ⟨k, w⟩ := x
    rw [look_cons]
    split
    · rintro ⟨⟩; exact ‹t = k› ▸ List.mem_cons_self ..
    · exact fun h => List.mem_cons_of_mem _ (ih h)

theorem look_of_mem_nodup {t : Ty} {v : β} {l : List (Ty × β)} (hnd : (l.map (·.1)).Nodup)
    (h : (t, v) ∈ l) : look t l = some v := by
  cases hl : look t l with
  | none => exact absurd (List.mem_map_of_mem (f := (·.1)) h) (look_eq_none_iff.mp hl)
  | some w => exact congrArg (some ·.2) (WireP.eq_of_nodup_map hnd (look_mem hl) h rfl)

theorem look_eq_some_iff {t : Ty} {v : β} {l : List (Ty × β)} (hnd : (l.map (·.1)).Nodup) :
    look t l = some v ↔ (t, v) ∈ l :=
  ⟨look_mem, look_of_mem_nodup hnd⟩

theorem perm_iff_look {l l' : List (Ty × β)} (hnd : (l.map (·.1)).Nodup) (hnd' : (l'.map (·.1)).Nodup) :
    l.Perm l' ↔ ∀ t, look t l = look t l' := by
  rw [List.perm_ext_iff_of_nodup (WireP.nodup_of_nodup_map hnd) (WireP.nodup_of_nodup_map hnd')]
  constructor
  · exact fun h t => Option.ext fun v => by rw [look_eq_some_iff hnd, look_eq_some_iff hnd', h]
  · rintro h ⟨t, v⟩
    rw [← look_eq_some_iff hnd, ← look_eq_some_iff hnd', h]

theorem look_perm {l l' : List (Ty × β)} (hnd : (l.map (·.1)).Nodup) (hp : l.Perm l') (t : Ty) :
    look t l = look t l' :=
  (perm_iff_look hnd ((hp.map _).nodup_iff.mp hnd)).mp hp t

theorem look_cons_fresh {t u : Ty} {v x : β} {l : List (Ty × β)} (hn : look t l = none) :
    look u ((t, v) :: l) = some x ↔ u = t ∧ x = v ∨ look u l = some x := by
  by_cases e : u = t
  · subst e; simp [look_cons_self, hn, eq_comm]
  · simp [look_cons_ne _ _ e, e]

theorem look_keep {t u : Ty} {v i : β} {l : List (Ty × β)} (hn : look t l = none)
    (hu : look u l = some i) : look u ((t, v) :: l) = some i :=
  (look_cons_fresh hn).mpr (.inr hu)

theorem look_cons_isSome {t u : Ty} {v : β} {l : List (Ty × β)} :
    (look u ((t, v) :: l)).isSome ↔ u = t ∨ (look u l).isSome := by
  by_cases e : u = t
  · simp [e, look_cons_self]
  · simp [look_cons_ne _ _ e, e]

theorem isSome_keep {t u : Ty} {v : β} {l : List (Ty × β)} (hu : (look u l).isSome) :
    (look u ((t, v) :: l)).isSome :=
  look_cons_isSome.mpr (.inr hu)

end WireV
