import WireV.Path
/-! For C16: `lastIndex` and `unvendorC` of `WireV/Path.lean`.  `NoVendorElem` is used by the statements of
`WireP/Props/C16.lean` and `WireP/Props/C01.lean`. -/
namespace WireP.PathProofs
open WireV

theorem isPrefixC_eq (n h : List Char) : isPrefixC n h = n.isPrefixOf h := by
  induction n generalizing h with
  | nil => rfl
  | cons a as ih => cases h <;> simp [isPrefixC, List.isPrefixOf, ih]

theorem isPrefixC_iff (n h : List Char) : isPrefixC n h = true ↔ ∃ t, h = n ++ t := by
  rw [isPrefixC_eq, List.isPrefixOf_iff_prefix]
  exact exists_congr fun _ => eq_comm

theorem isPrefixC_append (n t : List Char) : isPrefixC n (n ++ t) = true :=
  (isPrefixC_iff _ _).mpr ⟨t, rfl⟩

theorem isPrefixC_nil_hay {n : List Char} (hn : n ≠ []) : isPrefixC n [] = false := by
  cases n with
  | nil => exact absurd rfl hn
  | cons a as => rfl

theorem occurrences_shift (n : List Char) (h : List Char) (i : Nat) :
    occurrences n h i = (occurrences n h 0).map (· + i) := by
  induction h generalizing i with
  | nil => simp only [occurrences]; split <;> simp
  | cons c cs ih =>
    simp only [occurrences, List.map_append]
    rw [ih (i + 1), ih (0 + 1)]
    congr 1
    · split <;> simp
    · simp only [List.map_map]
      apply List.map_congr_left
      intro a _
      simp only [Function.comp]; omega

theorem lastIndex_nil {n : List Char} (hn : n ≠ []) : lastIndex n [] = none := by
  cases n with
  | nil => exact absurd rfl hn
  | cons a as => rfl

theorem lastIndex_cons (n : List Char) (c : Char) (cs : List Char) :
    lastIndex n (c :: cs) =
      match lastIndex n cs with
      | some k => some (k + 1)
      | none => if isPrefixC n (c :: cs) then some 0 else none := by
  simp only [lastIndex, occurrences, List.getLast?_append]
  rw [occurrences_shift n cs (0 + 1), List.getLast?_map]
  cases (occurrences n cs 0).getLast? with
  | some k => simp
  | none => split <;> simp

theorem lastIndex_cons_none {n : List Char} {c : Char} {cs : List Char} :
    lastIndex n (c :: cs) = none ↔ lastIndex n cs = none ∧ isPrefixC n (c :: cs) = false := by
  rw [lastIndex_cons]
  cases lastIndex n cs with
  | some k => simp
  | none => cases isPrefixC n (c :: cs) <;> simp

theorem lastIndex_none_iff {n : List Char} (hn : n ≠ []) (h : List Char) :
    lastIndex n h = none ↔ ∀ j, isPrefixC n (h.drop j) = false := by
  induction h with
  | nil => simp [lastIndex_nil hn, isPrefixC_nil_hay hn]
  | cons c cs ih =>
    rw [lastIndex_cons_none, ih]
    exact ⟨fun ⟨h1, h2⟩ j => by cases j <;> simp [h1, h2], fun hall => ⟨fun j => hall (j + 1), hall 0⟩⟩

theorem lastIndex_some_iff_rest {n : List Char} (hn : n ≠ []) {h : List Char} {i : Nat} :
    lastIndex n h = some i ↔ isPrefixC n (h.drop i) = true ∧ lastIndex n (h.drop (i + 1)) = none := by
  induction h generalizing i with
  | nil => simp [lastIndex_nil hn, isPrefixC_nil_hay hn]
  | cons c cs ih =>
    rw [lastIndex_cons]
    cases i with
    | zero =>
      rw [List.drop_zero, List.drop_succ_cons, List.drop_zero]
      cases lastIndex n cs <;> cases isPrefixC n (c :: cs) <;> simp
    | succ i =>
      rw [List.drop_succ_cons, List.drop_succ_cons, ← ih]
      cases lastIndex n cs <;> cases isPrefixC n (c :: cs) <;> simp

theorem lastIndex_some_iff {n : List Char} (hn : n ≠ []) {h : List Char} {i : Nat} :
    lastIndex n h = some i ↔
      isPrefixC n (h.drop i) = true ∧ ∀ j, i < j → isPrefixC n (h.drop j) = false := by
  rw [lastIndex_some_iff_rest hn, lastIndex_none_iff hn]
  refine and_congr_right fun _ => ⟨fun H j hj => ?_, fun H k => ?_⟩
  · have := H (j - (i + 1))
    rwa [List.drop_drop, Nat.add_sub_cancel' hj] at this
  · rw [List.drop_drop]; exact H _ (by omega)

theorem lastIndex_none_isPrefixC {n : List Char} (hn : n ≠ []) {h : List Char}
    (hnone : lastIndex n h = none) : isPrefixC n h = false :=
  (lastIndex_none_iff hn h).mp hnone 0

theorem lastIndex_append_some (n q : List Char) {h : List Char} {i : Nat}
    (hs : lastIndex n h = some i) : lastIndex n (q ++ h) = some (q.length + i) := by
  induction q with
  | nil => simpa using hs
  | cons c q ih =>
    rw [List.cons_append, lastIndex_cons, ih]
    simp only [List.length_cons, Option.some.injEq]; omega

theorem lastIndex_none_of_append {n h : List Char} (q : List Char) (hno : lastIndex n (q ++ h) = none) :
    lastIndex n h = none := by
  cases hs : lastIndex n h with
  | none => rfl
  | some i => rw [lastIndex_append_some n q hs] at hno; cases hno

theorem vendorSlash_eq : "vendor/".toList = ['v', 'e', 'n', 'd', 'o', 'r', '/'] := String.toList_ofList

theorem vendorElem_eq : vendorElem = '/' :: "vendor/".toList := by
  rw [vendorSlash_eq]; exact String.toList_ofList

theorem vendorElem_ne_nil : vendorElem ≠ [] := by rw [vendorElem_eq]; exact List.cons_ne_nil _ _

/-- no `vendor` path element: neither `…/vendor/…` nor a leading `vendor/` -/
def NoVendorElem (p : List Char) : Prop :=
  lastIndex vendorElem p = none ∧ isPrefixC "vendor/".toList p = false

instance (p : List Char) : Decidable (NoVendorElem p) := by unfold NoVendorElem; infer_instance

theorem unvendor_id {p : List Char} (h : NoVendorElem p) : unvendorC p = p := by
  unfold unvendorC
  rw [h.1, h.2]
  rfl

theorem lastIndex_vendorSlash {p : List Char} (h : NoVendorElem p) :
    lastIndex vendorElem ("vendor/".toList ++ p) = none := by
  obtain ⟨h1, h2⟩ := h
  have h3 : isPrefixC vendorElem ('/' :: p) = false := by
    rw [vendorElem_eq]; simpa [isPrefixC] using h2
  rw [vendorSlash_eq]
  simp only [List.cons_append, List.nil_append, lastIndex_cons_none, h1, h3, true_and]
  simp [vendorElem_eq, vendorSlash_eq, isPrefixC]

theorem lastIndex_vendorElem {p : List Char} (h : NoVendorElem p) :
    lastIndex vendorElem (vendorElem ++ p) = some 0 := by
  have e : vendorElem ++ p = '/' :: ("vendor/".toList ++ p) := by rw [vendorElem_eq]; rfl
  rw [e, lastIndex_cons, lastIndex_vendorSlash h, ← e, isPrefixC_append]
  rfl

theorem unvendor_canonical {p : List Char} (h : NoVendorElem p) (q : List Char) :
    unvendorC (q ++ vendorElem ++ p) = p ∧ unvendorC ("vendor/".toList ++ p) = p := by
  constructor
  · rw [List.append_assoc, unvendorC, lastIndex_append_some _ q (lastIndex_vendorElem h), Nat.add_zero]
    show List.drop (q.length + vendorElem.length) (q ++ (vendorElem ++ p)) = p
    rw [← List.length_append, ← List.append_assoc, List.drop_left]
  · rw [unvendorC, lastIndex_vendorSlash h, isPrefixC_append, vendorSlash_eq]
    rfl

theorem noVendorElem_of_vendorSlash {r : List Char}
    (hno : lastIndex vendorElem ("vendor/".toList ++ r) = none) : NoVendorElem r := by
  refine ⟨lastIndex_none_of_append _ hno, Bool.eq_false_iff.mpr fun hp => ?_⟩
  -- otherwise `r = vendor/ ++ t`, and `/vendor/` occurs right behind the first `vendor`
  obtain ⟨t, rfl⟩ := (isPrefixC_iff _ _).mp hp
  have e : "vendor/".toList ++ ("vendor/".toList ++ t) = ['v', 'e', 'n', 'd', 'o', 'r'] ++ (vendorElem ++ t) := by
    rw [vendorElem_eq, vendorSlash_eq]; rfl
  have := lastIndex_none_isPrefixC vendorElem_ne_nil (lastIndex_none_of_append _ (e ▸ hno))
  rw [isPrefixC_append] at this
  cases this

theorem unvendor_noVendor (p : List Char) : NoVendorElem (unvendorC p) := by
  unfold unvendorC
  split
  · rename_i i hl
    obtain ⟨h1, h2⟩ := (lastIndex_some_iff_rest vendorElem_ne_nil).mp hl
    obtain ⟨t, ht⟩ := (isPrefixC_iff _ _).mp h1
    have e1 : p.drop (i + 1) = "vendor/".toList ++ t := by rw [← List.drop_drop, ht, vendorElem_eq]; rfl
    have e2 : p.drop (i + vendorElem.length) = t := by rw [← List.drop_drop, ht, List.drop_left]
    exact e2 ▸ noVendorElem_of_vendorSlash (e1 ▸ h2)
  · rename_i hl
    split
    · rename_i hp
      obtain ⟨t, ht⟩ := (isPrefixC_iff _ _).mp hp
      have e : p.drop 7 = t := by rw [ht, vendorSlash_eq]; rfl
      exact e ▸ noVendorElem_of_vendorSlash (ht ▸ hl)
    · rename_i hp
      exact ⟨hl, by simpa using hp⟩

theorem unvendor_idem (p : List Char) : unvendorC (unvendorC p) = unvendorC p :=
  unvendor_id (unvendor_noVendor p)

theorem unvendor_toList (p : String) : (unvendor p).toList = unvendorC p.toList :=
  String.toList_ofList

theorem unvendor_id_string {p : String} (h : NoVendorElem p.toList) : unvendor p = p := by
  rw [unvendor, unvendor_id h, String.ofList_toList]

theorem isWireImport_spec (p : String) :
    isWireImport p = true ↔ unvendor p = "github.com/google/wire" :=
  beq_iff_eq

/-! Evaluation on string literals.  A literal `s` is `String.ofList l` of its characters by definition, so `rfl` proves
`s = String.ofList l` and `String.toList_ofList` reads `l` back, whereas evaluating `s.toList` goes through the UTF-8
bytes of `s` and is far dearer.  The `_lit` lemmas turn a statement about literals into one about their character
lists, which evaluation decides: `…_lit rfl rfl (by decide +kernel)`.  `vendorSlash_eq` and its like are there for the
same reason. -/

theorem unvendor_lit {s r : String} {l m : List Char} (hs : s = String.ofList l)
    (hr : String.ofList m = r) (h : unvendorC l = m) : unvendor s = r := by
  rw [← hr, ← h, hs, unvendor, String.toList_ofList]

theorem isWireImport_lit {s : String} {l m : List Char} {b : Bool} (hs : s = String.ofList l)
    (hw : "github.com/google/wire" = String.ofList m) (h : decide (unvendorC l = m) = b) :
    isWireImport s = b := by
  rw [← h, isWireImport, hw, hs, unvendor, String.toList_ofList]
  exact Bool.eq_iff_iff.mpr (by simp [String.ofList_inj])

theorem noVendorElem_lit {s : String} {l : List Char} (hs : s = String.ofList l)
    (h : NoVendorElem l) : NoVendorElem s.toList := by
  rwa [hs, String.toList_ofList]

theorem not_noVendorElem_lit {s : String} {l : List Char} (hs : s = String.ofList l)
    (h : ¬ NoVendorElem l) : ¬ NoVendorElem s.toList := by
  rwa [hs, String.toList_ofList]

theorem lastIndex_lit {n s : String} {ln l : List Char} {r : Option Nat} (hn : n = String.ofList ln)
    (hs : s = String.ofList l) (h : lastIndex ln l = r) : lastIndex n.toList s.toList = r := by
  rwa [hn, hs, String.toList_ofList, String.toList_ofList]

end WireP.PathProofs
