/-! # Iterating a partial step function

The stack machines of the model (`acIter`, `svIter`, `gIter`) are `run step` for their step function
(`run_unique`).  The proofs use the exact iteration `runO step n`, which fails when the machine
halts before `n` steps, so that runs compose (`runO_add`). -/
namespace WireP.Iter

variable {σ : Type} (step : σ → Option σ)

def runO : Nat → σ → Option σ
  | 0, s => some s
  | n + 1, s => (step s).bind (runO n)

def run : Nat → σ → σ
  | 0, s => s
  | n + 1, s => match step s with
    | none => s
    | some s' => run n s'

variable {step}

theorem runO_unique {it : Nat → σ → Option σ} (h0 : ∀ s, it 0 s = some s)
    (hS : ∀ n s, it (n + 1) s = (step s).bind (it n)) : it = runO step := by
  funext n
  induction n with
  | zero => funext s; exact h0 s
  | succ n ih => funext s; rw [hS, ih]; rfl

theorem run_unique {it : Nat → σ → σ} (h0 : ∀ s, it 0 s = s)
    (hS : ∀ n s, it (n + 1) s = match step s with | none => s | some s' => it n s') :
    it = run step := by
  funext n
  induction n with
  | zero => funext s; exact h0 s
  | succ n ih => funext s; rw [hS, ih]; rfl

theorem runO_add (m n : Nat) (s : σ) : runO step (m + n) s = (runO step m s).bind (runO step n) := by
  induction m generalizing s with
  | zero => simp [runO]
  | succ m ih =>
    rw [Nat.add_right_comm]
    simp only [runO]
    cases step s with
    | none => rfl
    | some s' => exact ih s'

theorem runO_comp {m n : Nat} {s s1 s2 : σ} (h1 : runO step m s = some s1)
    (h2 : runO step n s1 = some s2) : runO step (m + n) s = some s2 := by
  rw [runO_add, h1]; exact h2

theorem runO_one {s s' : σ} (h : step s = some s') : runO step 1 s = some s' := by
  simp [runO, h]

theorem runO_succ_eq_some {n : Nat} {s s' : σ} :
    runO step (n + 1) s = some s' ↔ ∃ s1, step s = some s1 ∧ runO step n s1 = some s' := by
  simp only [runO]
  cases step s <;> simp

theorem runO_induct (P : σ → Prop) (hP : ∀ s s', P s → step s = some s' → P s') {n : Nat}
    {s s' : σ} (h : runO step n s = some s') (hp : P s) : P s' := by
  induction n generalizing s with
  | zero => cases h; exact hp
  | succ n ih =>
    obtain ⟨s1, hst, h⟩ := runO_succ_eq_some.mp h
    exact ih h (hP s s1 hp hst)

theorem run_of_halted {s : σ} (h : step s = none) (n : Nat) : run step n s = s := by
  cases n with
  | zero => rfl
  | succ n => simp [run, h]

theorem run_add_of_runO {n : Nat} {s s' : σ} (h : runO step n s = some s') (k : Nat) :
    run step (n + k) s = run step k s' := by
  induction n generalizing s with
  | zero => cases h; rw [Nat.zero_add]
  | succ n ih =>
    obtain ⟨s1, hst, h⟩ := runO_succ_eq_some.mp h
    rw [Nat.add_right_comm]
    simp only [run, hst]
    exact ih h

theorem run_eq_of_runO {n : Nat} {s s' : σ} (h : runO step n s = some s') : run step n s = s' :=
  run_add_of_runO h 0

theorem run_of_runO {n m : Nat} {s s' : σ} (h : runO step n s = some s') (hs : step s' = none)
    (hle : n ≤ m) : run step m s = s' := by
  obtain ⟨k, rfl⟩ := Nat.exists_eq_add_of_le hle
  rw [run_add_of_runO h, run_of_halted hs]

theorem runO_of_run (n : Nat) (s : σ) : ∃ m, m ≤ n ∧ runO step m s = some (run step n s) := by
  induction n generalizing s with
  | zero => exact ⟨0, Nat.le_refl _, rfl⟩
  | succ n ih =>
    simp only [run]
    cases hst : step s with
    | none => exact ⟨0, Nat.zero_le _, rfl⟩
    | some s1 =>
      obtain ⟨m, hm, h⟩ := ih s1
      exact ⟨m + 1, Nat.succ_le_succ hm, by simp [runO, hst, h]⟩

theorem run_induct (P : σ → Prop) (hP : ∀ s s', P s → step s = some s' → P s') (n : Nat) {s : σ}
    (hp : P s) : P (run step n s) :=
  let ⟨_, _, h⟩ := runO_of_run n s
  runO_induct P hP h hp

theorem runO_map {τ : Type} {step' : τ → Option τ} (f : σ → τ)
    (h : ∀ s, step' (f s) = (step s).map f) (n : Nat) (s : σ) :
    runO step' n (f s) = (runO step n s).map f := by
  induction n generalizing s with
  | zero => rfl
  | succ n ih =>
    simp only [runO, h]
    cases step s with
    | none => rfl
    | some s' => exact ih s'

theorem run_halts (μ : σ → Nat) (hμ : ∀ s s', step s = some s' → μ s' < μ s) (n : Nat) (s : σ)
    (h : μ s ≤ n) : step (run step n s) = none := by
  induction n generalizing s with
  | zero =>
    cases hst : step s with
    | none => exact hst
    | some s' => exact absurd (hμ s s' hst) (by omega)
  | succ n ih =>
    simp only [run]
    cases hst : step s with
    | none => exact hst
    | some s' => exact ih s' (Nat.le_of_lt_succ (Nat.lt_of_lt_of_le (hμ s s' hst) h))

end WireP.Iter
