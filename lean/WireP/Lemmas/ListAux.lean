/-! # General facts about lists: distinct keys, induction from the right, a pigeonhole -/
namespace WireP

theorem not_transGen_self {α : Type} {r : α → α → Prop} (hwf : WellFounded r) (a : α) :
    ¬ Relation.TransGen r a a :=
  hwf.transGen.induction (C := fun a => ¬ Relation.TransGen r a a) a fun x ih hx => ih x hx hx

theorem eq_of_nodup_map {α β : Type} {f : α → β} {l : List α} (h : (l.map f).Nodup) {a b : α}
    (ha : a ∈ l) (hb : b ∈ l) : f a = f b → a = b := by
  have hp := List.pairwise_map.mp h
  exact List.Pairwise.forall_of_forall_of_flip (R := fun a b => f a = f b → a = b)
    (fun _ _ _ => rfl) (hp.imp fun hne e => absurd e hne) (hp.imp fun hne e => absurd e.symm hne) ha hb

theorem find?_key_some {α β : Type} [BEq β] [LawfulBEq β] {f : α → β} {l : List α} {k : β} {a : α}
    (h : l.find? (fun x => f x == k) = some a) : a ∈ l ∧ f a = k :=
  ⟨List.mem_of_find?_eq_some h, by simpa using List.find?_some h⟩

theorem find?_key_eq_some_iff {α β : Type} [BEq β] [LawfulBEq β] {f : α → β} {l : List α}
    (h : (l.map f).Nodup) {k : β} {a : α} :
    l.find? (fun x => f x == k) = some a ↔ a ∈ l ∧ f a = k := by
  refine ⟨find?_key_some, ?_⟩
  rintro ⟨ha, rfl⟩
  cases hf : l.find? (fun x => f x == f a) with
  | none => simpa using List.find?_eq_none.mp hf a ha
  | some b => rw [eq_of_nodup_map h (find?_key_some hf).1 ha (find?_key_some hf).2]

theorem nodup_of_nodup_map {α β : Type} {f : α → β} {l : List α} (h : (l.map f).Nodup) : l.Nodup :=
  (List.pairwise_map.mp h).imp fun hne e => hne (congrArg f e)

theorem nodup_concat {α : Type} {l : List α} {a : α} : (l ++ [a]).Nodup ↔ a ∉ l ∧ l.Nodup :=
  (List.perm_append_singleton a l).nodup_iff.trans List.nodup_cons

theorem snoc_induction {α : Type} {motive : List α → Prop} (nil : motive [])
    (snoc : ∀ l a, motive l → motive (l ++ [a])) (l : List α) : motive l := by
  rw [← l.reverse_reverse]
  induction l.reverse with
  | nil => exact nil
  | cons a l ih => rw [List.reverse_cons]; exact snoc _ a ih

theorem getElem?_append_singleton {α : Type} (l : List α) (x : α) (j : Nat) :
    (l ++ [x])[j]? = if j = l.length then some x else l[j]? := by
  rcases Nat.lt_trichotomy j l.length with h | h | h
  · rw [List.getElem?_append_left h, if_neg (Nat.ne_of_lt h)]
  · subst h; simp
  · rw [List.getElem?_eq_none (by simp; omega), if_neg (Nat.ne_of_gt h),
      List.getElem?_eq_none (by omega)]

theorem getElem?_concat {α : Type} {l : List α} {c x : α} {p : Nat} (h : (l ++ [c])[p]? = some x) :
    l[p]? = some x ∨ p = l.length ∧ x = c := by
  rw [getElem?_append_singleton] at h
  split at h
  · exact .inr ⟨‹_›, (Option.some.inj h).symm⟩
  · exact .inl h

theorem drop_ne_cons_of_not_mem {α : Type} {c : α} {w : List α} (hc : c ∉ w) {m : Nat} (h1 : 1 ≤ m)
    (h2 : m ≤ w.length) (rest suf : List α) : (c :: w ++ rest).drop m ≠ c :: suf := by
  intro h
  have := congrArg List.head? h
  rw [List.head?_drop, List.cons_append, List.getElem?_cons, if_neg (by omega),
    List.getElem?_append_left (by omega)] at this
  exact hc (List.mem_of_getElem? this)

theorem eq_map_some {α : Type} : ∀ (l : List (Option α)), l.any Option.isNone = false →
    l = (l.filterMap id).map some
  | [], _ => rfl
  | none :: l, h => by cases h
  | some a :: l, h => congrArg (some a :: ·) (eq_map_some l h)

/-- pigeonhole: `E` relates `l` injectively into `l'` -/
theorem length_le_of_rel {α β : Type} {E : α → β → Prop} : ∀ (l : List α) (l' : List β),
    l.Pairwise (fun a b => ∀ c, E a c → ¬ E b c) → (∀ a ∈ l, ∃ c ∈ l', E a c) →
    l.length ≤ l'.length
  | [], _, _, _ => Nat.zero_le _
  | a :: l, l', hp, h => by
    obtain ⟨c, hc, hac⟩ := h a List.mem_cons_self
    obtain ⟨l1, l2, rfl⟩ := List.append_of_mem hc
    have hp' := List.pairwise_cons.mp hp
    have := length_le_of_rel l (l1 ++ l2) hp'.2 (fun b hb => by
      obtain ⟨c', hc', hbc'⟩ := h b (List.mem_cons_of_mem _ hb)
      refine ⟨c', ?_, hbc'⟩
      rcases List.mem_append.mp hc' with h1 | h1
      · exact List.mem_append_left _ h1
      · rcases List.mem_cons.mp h1 with rfl | h2
        · exact absurd hbc' (hp'.1 b hb c' hac)
        · exact List.mem_append_right _ h2)
    simp only [List.length_append, List.length_cons] at this ⊢
    omega

end WireP
