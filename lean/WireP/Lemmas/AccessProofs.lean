import WireV.Access
/-! The per-node tests of `WireV.accessibleFrom` as propositions, used by the statements of `WireP/Props/C13.lean`. -/
namespace WireP.Access
open WireV

/-- the target package can name this identifier -/
def IdentOk (want : Nat) (i : AIdent) : Prop :=
  i.scope = .pkgName ∨ i.scope = .noPkg ∨
    (i.scope ≠ .local ∧ (i.pkg = want ∨ (i.exported = true ∧ i.importable = true)))

/-- the target package can write this literal: every positionally set field is exported or its own -/
def LitOk (want : Nat) (fs : List AField) : Prop := ∀ f ∈ fs, f.exported = true ∨ f.pkg = want

def NodeOk (want : Nat) : ANode → Prop
  | .ident i => IdentOk want i
  | .lit fs => LitOk want fs

theorem identErr_none_iff (want : Nat) (i : AIdent) : identErr want i = none ↔ IdentOk want i := by
  unfold identErr IdentOk
  split
  · simp [*]
  · simp [*]
  · rename_i hs1 hs2
    rw [or_iff_right hs1, or_iff_right hs2]
    by_cases hp : i.pkg = want
    · simp [hp]
    · cases i.exported <;> cases i.importable <;> simp [hp]

theorem litErr_none_iff (want : Nat) (fs : List AField) : litErr want fs = none ↔ LitOk want fs := by
  simp only [litErr, LitOk, Option.map_eq_none_iff, List.find?_eq_none, Bool.and_eq_true, Bool.not_eq_true',
    bne_iff_ne, not_and, Decidable.not_not]
  exact forall₂_congr fun f _ => by cases f.exported <;> simp

theorem nodeErr_none_iff (want : Nat) (n : ANode) : nodeErr want n = none ↔ NodeOk want n := by
  cases n with
  | ident i => exact identErr_none_iff want i
  | lit fs => exact litErr_none_iff want fs

end WireP.Access
