import WireV.Acyclic
import WireV.Solve
import WireP.Lemmas.Iter
import WireP.Lemmas.Potential
/-! `acStep` case by case, and termination of `verifyAcyclic` within `acFuel` steps. -/
namespace WireP.AcyclicProofs
open WireV WireP.Potential

theorem acIter_eq (succ : Ty → List Ty) : acIter succ = Iter.run (acStep succ) :=
  Iter.run_unique (fun _ => rfl) (fun n s => by rw [acIter]; cases acStep succ s <;> rfl)

theorem acStep_cases {succ : Ty → List Ty} {s s' : AcSt} (h : acStep succ s = some s') :
    (∃ T rest, s.stk = T :: rest ∧ (∀ h ∈ T.head?, h ∈ s.visited) ∧ s' = { s with stk := rest }) ∨
    ∃ h t rest, s.stk = (h :: t) :: rest ∧ h ∉ s.visited ∧
      s' = { visited := h :: s.visited
             stk := (((succ h).filter (fun a => decide (a ∉ h :: t))).map (· :: h :: t)).reverse ++ rest
             errs := s.errs ++ ((succ h).filter (fun a => decide (a ∈ h :: t))).map (cycleOf (h :: t)) } := by
  unfold acStep at h
  split at h
  · cases h
  · rename_i rest hs
    cases h
    exact .inl ⟨[], rest, hs, by simp, rfl⟩
  · rename_i hd t rest hs
    split at h <;> cases h
    · rename_i hv
      exact .inl ⟨hd :: t, rest, hs, by simpa using hv, rfl⟩
    · rename_i hv
      exact .inr ⟨hd, t, rest, hs, hv, rfl⟩

theorem acStep_eq_none {succ : Ty → List Ty} {s : AcSt} : acStep succ s = none ↔ s.stk = [] := by
  unfold acStep
  split <;> simp [*]
  split <;> simp

/-- The detector's edges are the planner's dependencies (`WireV.Solve` is imported for `depsOf` alone). -/
theorem succOf_of_look {pm : PMap} {t : Ty} {pt : PT} (h : look t pm = some pt) :
    succOf pm t = depsOf pt.src := by
  obtain ⟨c, src⟩ := pt
  unfold succOf
  rw [h]
  cases src <;> rfl

theorem succOf_of_none {pm : PMap} {t : Ty} (h : look t pm = none) : succOf pm t = [] := by
  unfold succOf
  rw [h]

theorem succOf_supp (pm : PMap) (t : Ty) (h : succOf pm t ≠ []) : t ∈ pm.map (·.1) := by
  cases hl : look t pm with
  | none => exact absurd (succOf_of_none hl) h
  | some pt => exact look_isSome_iff.mp (Option.isSome_of_eq_some hl)

/-! The potential: one pop per stacked trail, one push per out-edge of a key not yet expanded. -/

variable {succ : Ty → List Ty} {U : List Ty}

def pot (succ : Ty → List Ty) (U : List Ty) (s : AcSt) : Nat :=
  s.stk.length + rem id (fun u => (succ u).length) U s.visited

theorem pot_step (hU : ∀ a, succ a ≠ [] → a ∈ U) {s s' : AcSt} (hst : acStep succ s = some s') :
    pot succ U s' < pot succ U s := by
  rcases acStep_cases hst with ⟨T, rest, hs, _, rfl⟩ | ⟨h, t, rest, hs, hh, rfl⟩
  · simp [pot, hs]
  · have hk := List.length_filter_le (fun a => decide (a ∉ h :: t)) (succ h)
    have hr : rem id (fun u => (succ u).length) U (h :: s.visited) + (succ h).length ≤
        rem id (fun u => (succ u).length) U s.visited := by
      by_cases hm : h ∈ U
      · exact rem_cons_add_le id _ U hm hh
      · have : succ h = [] := Classical.byContradiction (fun hne => hm (hU h hne))
        simpa [this] using rem_cons_le id (fun u => (succ u).length) U h s.visited
    simp only [pot, hs, List.length_append, List.length_reverse, List.length_map, List.length_cons]
    omega

theorem acIter_halts (hU : ∀ a, succ a ≠ [] → a ∈ U) (roots : List Ty) {n : Nat}
    (hn : roots.length + (U.map (fun u => (succ u).length)).sum ≤ n) :
    (acIter succ n (acInit roots)).stk = [] := by
  rw [acIter_eq]
  exact acStep_eq_none.mp (Iter.run_halts (pot succ U) (fun _ _ => pot_step hU) n _
    (by simpa [pot, acInit, rem_nil] using hn))

theorem va_terminates (pm : PMap) (roots : List Ty) : (verifyAcyclic pm roots).stk = [] :=
  acIter_halts (succOf_supp pm) roots (by rw [List.map_map]; exact Nat.le_refl _)

end WireP.AcyclicProofs
