import WireP.Lemmas.PipelineDefs
import WireP.Lemmas.PipelineAcyclic
import WireP.Lemmas.AcyclicProofs
/-! Every map accepted by the front half satisfies the planner's hypotheses (`planLast_hyps`).  Three
properties are handed on by `buildProviderMap` from the maps it imports and so hold of every accepted set
(`procSets_ok_induct`): `ConcClosed`, no argument entry in a set without arguments, every key listed in
`order`.  The rest of `Solve.H` is read off the one call of `buildProviderMap` that made the map.

The namespace `WireP.PMapInv` (there is no file of that name) holds what one such call hands on. -/

namespace WireP.PMapInv
open WireV WireP.C05 WireP.PMapProofs WireP.Pipeline WireP.Solve

def NoArgEntry (pm : PMap) : Prop := ∀ kv ∈ pm, ∀ i, kv.2.src ≠ .arg i

section
variable {args : Option (List Ty)} {imports : List (Nat × PMap)} {provs : List Prov}
  {vals : List Val} {flds : List Fld} {bnds : List Bnd} {pm : PMap} {sm : SMap}

/-- The sources of a set: the keys of its imports, then its own (`ownSources`). -/
theorem allSources_perm : (allSources args imports provs vals flds bnds).Perm
    (imports.flatMap (fun ip => keys ip.2) ++ (args.getD [] ++ provs.flatMap (·.outs) ++ vals.map (·.out) ++
      flds.flatMap (·.outs) ++ bnds.map (·.iface))) := by
  simp only [allSources, baseSources, keys, List.append_assoc]
  exact List.perm_append_comm_assoc ..

theorem import_keys_nodup (h : buildProviderMap args imports provs vals flds bnds = .ok (pm, sm))
    {ip : Nat × PMap} (hip : ip ∈ imports) : (keys ip.2).Nodup :=
  (List.pairwise_flatMap.mp
    (List.nodup_append.mp (allSources_perm.nodup_iff.mp (bpm_never_picks _ _ _ _ _ _ h))).1).1 ip hip

/-- Every stored value is the payload of an item (`ok_mem_vals`), and that item sits under the concrete
    type of its payload or, if imported, the closed import has one that does. -/
theorem bpm_concClosed (himp : ∀ ip ∈ imports, ConcClosed ip.2)
    (h : buildProviderMap args imports provs vals flds bnds = .ok (pm, sm)) : ConcClosed pm := by
  intro k pt hl
  obtain ⟨x, hx, rfl⟩ := ok_mem_vals h (look_mem hl)
  rcases mem_baseItems_iff.mp hx with ⟨i, t, -, rfl⟩ | ⟨ip, hip, kv, hkv, rfl⟩ | ⟨p, -, t, -, rfl⟩ |
      ⟨v, -, rfl⟩ | ⟨f, -, t, -, rfl⟩
  · exact (ok_base_item h hx).1
  · have h2 := look_mem (himp ip hip _ _ (look_of_mem_nodup (import_keys_nodup h hip) hkv))
    exact (ok_base_item h (mem_baseItems_iff.mpr (.inr (.inl ⟨ip, hip, _, h2, rfl⟩)))).1
  · exact (ok_base_item h hx).1
  · exact (ok_base_item h hx).1
  · exact (ok_base_item h hx).1

theorem bpm_srcTotal (h : buildProviderMap args imports provs vals flds bnds = .ok (pm, sm)) :
    SrcTotal pm sm := fun k => by
  rw [look_isSome_iff, look_isSome_iff]
  exact iff_of_eq (congrArg (k ∈ ·) ((ok_keys h).1.trans (ok_keys h).2.symm))

theorem bpm_args_given_mem (himp : ∀ ip ∈ imports, NoArgEntry ip.2)
    (h : buildProviderMap args imports provs vals flds bnds = .ok (pm, sm)) :
    ∀ kv ∈ pm, ∀ i, kv.2.src = .arg i → kv.2.t ∈ args.getD [] := by
  intro kv hkv i hsrc
  obtain ⟨x, hx, e⟩ := ok_mem_vals h hkv
  rw [← e] at hsrc ⊢
  rcases mem_baseItems_iff.mp hx with ⟨i, t, ht, rfl⟩ | ⟨ip, hip, kv, hkv, rfl⟩ | ⟨p, -, t, -, rfl⟩ |
      ⟨v, -, rfl⟩ | ⟨f, -, t, -, rfl⟩
  · exact List.mem_of_getElem? ht
  · exact absurd hsrc (himp ip hip kv hkv i)
  · cases hsrc
  · cases hsrc
  · cases hsrc

theorem bpm_noArgEntry (hargs : args = none) (himp : ∀ ip ∈ imports, NoArgEntry ip.2)
    (h : buildProviderMap args imports provs vals flds bnds = .ok (pm, sm)) : NoArgEntry pm := by
  intro kv hkv i hsrc
  have := bpm_args_given_mem himp h kv hkv i hsrc
  simp [hargs] at this

end

theorem bpm_covered {order : List Ty} {d : SetDef} {m : List (Nat × PMap)} {pm : PMap} {sm : SMap}
    (hd : ∀ t ∈ ownSources d, t ∈ order) (himp : ∀ ip ∈ m, ∀ k, (look k ip.2).isSome → k ∈ order)
    (hb : buildProviderMap d.args m d.provs d.vals d.flds d.bnds = .ok (pm, sm)) :
    ∀ k, (look k pm).isSome → k ∈ order := by
  intro k hk
  rcases List.mem_append.mp (allSources_perm.mem_iff.mp (((bpm_ok_lookup hb).pm_keys k).mp hk)) with h | h
  · obtain ⟨ip, hip, h⟩ := List.mem_flatMap.mp h
    exact himp ip hip k (look_isSome_iff.mpr h)
  · exact hd k h

end WireP.PMapInv

namespace WireP.PipelineProofs
open WireV WireP.Pipeline WireP.C05 WireP.C07 WireP.Solve WireP.PMapInv

theorem procSets_concClosed {order : List Ty} {ds : List SetDef} {id : Nat} {pm : PMap} {sm : SMap}
    (h : (id, SetRes.ok pm sm) ∈ procSets order ds) : ConcClosed pm :=
  procSets_ok_induct (fun _ _ _ _ _ himp hb => bpm_concClosed himp hb) h

theorem procSets_noArgEntry {order : List Ty} {ds : List SetDef} (hargs : ∀ d ∈ ds, d.args = none)
    {id : Nat} {pm : PMap} {sm : SMap} (h : (id, SetRes.ok pm sm) ∈ procSets order ds) :
    NoArgEntry pm :=
  procSets_ok_induct (fun d hd _ _ _ himp hb => bpm_noArgEntry (hargs d hd) himp hb) h

theorem procSets_covered {order : List Ty} {ds : List SetDef} (h : OrderCovers order ds)
    {id : Nat} {pm : PMap} {sm : SMap} (hr : (id, SetRes.ok pm sm) ∈ procSets order ds) :
    ∀ k, (look k pm).isSome → k ∈ order :=
  procSets_ok_induct (P := fun pm => ∀ k, (look k pm).isSome → k ∈ order)
    (fun d hd _ _ _ himp hb => bpm_covered (h d hd) himp hb) hr

theorem last_covered {order : List Ty} {ds : List SetDef} (h : OrderCovers order ds)
    {id : Nat} {pm : PMap} {sm : SMap}
    (hl : (procSets order ds).getLast? = some (id, SetRes.ok pm sm)) :
    ∀ k, (look k pm).isSome → k ∈ order :=
  procSets_covered h (List.mem_of_getLast? hl)

/-- `procSets_covered` one step ahead: for a map that has not yet passed its own cycle check. -/
theorem next_covered {order : List Ty} {ds pre : List SetDef} (h : OrderCovers order ds)
    (hpre : pre ⊆ ds) {d : SetDef} (hd : d ∈ ds) {m : List (Nat × PMap)} {pm : PMap} {sm : SMap}
    (hm : importsOf (procSets order pre) d = .ok m)
    (hb : buildProviderMap d.args m d.provs d.vals d.flds d.bnds = .ok (pm, sm)) :
    ∀ k, (look k pm).isSome → k ∈ order :=
  bpm_covered (h d hd) (imports_forall hm (procSets_covered fun d hd => h d (hpre hd))) hb

theorem procSets_args_given {order : List Ty} {ds : List SetDef} (hbl : BuildLast ds) {d : SetDef}
    (hd : ds.getLast? = some d) {id : Nat} {pm : PMap} {sm : SMap}
    (hl : (procSets order ds).getLast? = some (id, SetRes.ok pm sm)) :
    ∀ t pt i, look t pm = some pt → pt.src = .arg i → pt.t ∈ d.args.getD [] := by
  obtain ⟨m, hm, hb, -⟩ := procSet_eq_ok_iff.mp (procSets_last_eq hd hl).2
  exact fun t pt i hlk =>
    bpm_args_given_mem (imports_forall hm (procSets_noArgEntry hbl)) hb (t, pt) (look_mem hlk) i

/-- The standing hypotheses of the planner theorems hold of the accepted last set, with its arguments as
    the given types. -/
theorem planLast_hyps {order : List Ty} {ds : List SetDef} {d : SetDef} {id : Nat} {pm : PMap}
    {sm : SMap} (hbl : BuildLast ds) (hd : ds.getLast? = some d)
    (hl : (procSets order ds).getLast? = some (id, SetRes.ok pm sm))
    (horder : ∀ k, (look k pm).isSome → k ∈ order) :
    Solve.H pm (d.args.getD []) ∧ Solve.GivenArgs pm (d.args.getD []) ∧ Solve.SrcTotal pm sm := by
  obtain ⟨m, -, hb, hc⟩ := procSet_eq_ok_iff.mp (procSets_last_eq hd hl).2
  have hcc : ConcClosed pm := procSets_concClosed (List.mem_of_getLast? hl)
  have hs := PMapProofs.bpm_ok_lookup hb
  have hnd := (List.nodup_append.mp (allSources_perm.nodup_iff.mp (PMapProofs.bpm_never_picks _ _ _ _ _ _ hb))).2.1
  simp only [List.append_assoc] at hnd
  refine ⟨⟨?_, ?_, hcc, hs.pm_nodup, (List.nodup_append.mp hnd).1⟩, ?_, bpm_srcTotal hb⟩
  · exact acyclic_of_not_cyclic hcc ((AcyclicProofs.checkAcyclic_spec order pm horder).mp hc)
  · intro t pt i hlk ht hsrc
    exact ht ▸ procSets_args_given hbl hd hl t pt i hlk hsrc
  · intro g hg
    obtain ⟨i, hi⟩ := List.getElem?_of_mem hg
    exact ⟨i, (hs.arg i g hi).1⟩

end WireP.PipelineProofs

namespace WireP.PMapInv
open WireV WireP.Solve

theorem concClosed_iff (pm : PMap) :
    ConcClosed pm ↔ ∀ kv ∈ pm, look kv.1 pm = some kv.2 → look kv.2.t pm = some kv.2 :=
  ⟨fun h _ _ hl => h _ _ hl, concClosed_of_forall pm⟩

instance (pm : PMap) : Decidable (ConcClosed pm) := decidable_of_iff _ (concClosed_iff pm).symm

theorem srcTotal_iff (pm : PMap) (sm : SMap) :
    SrcTotal pm sm ↔ (∀ kv ∈ pm, (look kv.1 sm).isSome) ∧ (∀ kv ∈ sm, (look kv.1 pm).isSome) := by
  have : (∀ k, k ∈ pm.map (·.1) ↔ k ∈ sm.map (·.1)) ↔
      (∀ k ∈ pm.map (·.1), k ∈ sm.map (·.1)) ∧ ∀ k ∈ sm.map (·.1), k ∈ pm.map (·.1) :=
    ⟨fun h => ⟨fun k => (h k).mp, fun k => (h k).mpr⟩, fun h k => ⟨h.1 k, h.2 k⟩⟩
  simpa only [SrcTotal, look_isSome_iff, List.forall_mem_map] using this

instance (pm : PMap) (sm : SMap) : Decidable (SrcTotal pm sm) := decidable_of_iff _ (srcTotal_iff pm sm).symm

section Examples

/-- a library set: provider `10 ← ()`, provider `30 ← (10)`, binding `60 := 30` -/
def exLib : SetDef :=
  { id := 1, args := none, imports := [], provs := [⟨1, [], [10], false, false, false, false⟩,
      ⟨2, [10], [30], false, false, false, false⟩], vals := [], flds := [], bnds := [⟨4, 60, 30⟩] }
/-- the injector's set: argument `70`, import of the library, provider `80 ← (60, 70)` -/
def exBuild : SetDef :=
  { id := 2, args := some [70], imports := [0], provs := [⟨3, [60, 70], [80], false, false, false, false⟩],
    vals := [], flds := [], bnds := [] }
def exOrder : List Ty := [10, 30, 60, 70, 80]

def exPm : PMap :=
  [(80, ⟨80, .prov ⟨3, [60, 70], [80], false, false, false, false⟩⟩),
   (10, ⟨10, .prov ⟨1, [], [10], false, false, false, false⟩⟩),
   (30, ⟨30, .prov ⟨2, [10], [30], false, false, false, false⟩⟩),
   (60, ⟨30, .prov ⟨2, [10], [30], false, false, false, false⟩⟩), (70, ⟨70, .arg 0⟩)]
def exSm : SMap := [(80, .prov 3), (10, .imp 1), (30, .imp 1), (60, .imp 1), (70, .arg 0)]

-- both sets are accepted, and the invariants hold of the result
theorem exLast : (procSets exOrder [exLib, exBuild]).getLast? = some (2, SetRes.ok exPm exSm) := by rfl
theorem exNoArgs : ∀ d ∈ [exLib, exBuild].dropLast, d.args = none := by decide +kernel
example : (procSets exOrder [exLib, exBuild]).getLast? = some (2, SetRes.ok exPm exSm) := exLast
example : ∀ d ∈ [exLib, exBuild].dropLast, d.args = none := exNoArgs
example : ConcClosed exPm := by decide +kernel
example : SrcTotal exPm exSm := by decide +kernel
-- the invariants are not trivially true
example : ¬ ConcClosed [(60, ⟨30, .arg 0⟩)] := by decide +kernel
example : ¬ SrcTotal exPm [] := by decide +kernel

example : ∀ t pt i, look t exPm = some pt → pt.src = .arg i → pt.t ∈ [70] :=
  WireP.PipelineProofs.procSets_args_given exNoArgs rfl exLast

end Examples

end WireP.PMapInv
