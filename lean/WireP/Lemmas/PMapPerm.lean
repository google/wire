import WireP.Lemmas.PMapProofs
/-! C10: acceptance and content of `buildProviderMap` do not depend on declaration order. -/

namespace WireP.C10
open WireV
-- the vocabulary of the statements in `WireP/Props/C10.lean`

/-- no binding's concrete type is itself bound: then what a binding resolves to does not depend on
    which bindings were processed before it (DESIGN.md, Appendix B.3) -/
def NoChainedBind (bnds : List Bnd) : Prop := ∀ b ∈ bnds, b.provided ∉ bnds.map (·.iface)

inductive ImportsEach : List (Nat × PMap) → List (Nat × PMap) → Prop
  | nil : ImportsEach [] []
  | cons {a b : Nat × PMap} {l l' : List (Nat × PMap)} :
      a.1 = b.1 → a.2.Perm b.2 → ImportsEach l l' → ImportsEach (a :: l) (b :: l')

/-- The imports listed in another order, and each imported map iterated in another order. -/
def ImportsPerm (imports imports' : List (Nat × PMap)) : Prop :=
  ∃ mid, imports.Perm mid ∧ ImportsEach mid imports'

end WireP.C10

namespace WireP.PMapProofs
open WireV WireP.C05 WireP.C10

section
variable {args : Option (List Ty)} {imports : List (Nat × PMap)} {provs : List Prov}
  {vals : List Val} {flds : List Fld} {bnds : List Bnd}

theorem item_mem_keys {l : List Item} {t : Ty} {v : PT} {src : SrcId} (h : (t, v, src) ∈ l) : t ∈ keys l :=
  List.mem_map.mpr ⟨_, h, rfl⟩

/-- Acceptance with chained bindings: a binding's concrete type has to be in the map when the binding is
    read, which is why their order matters (`bpm_perm_fails_chained`). -/
theorem bpm_ok_iff_pos :
    (∃ r, buildProviderMap args imports provs vals flds bnds = .ok r) ↔
      (allSources args imports provs vals flds bnds).Nodup ∧ ∀ i (h : i < bnds.length),
        bnds[i].provided ∈ allSources args imports provs vals flds (bnds.take i) := by
  refine ⟨fun ⟨⟨_, _⟩, h⟩ => ⟨bpm_never_picks _ _ _ _ _ _ h, fun i hi => ?_⟩, fun ⟨hnd, hp⟩ => ?_⟩
  · have h6 := (bpm_ok h).1
    rw [s6of, bL_eq_run] at h6
    obtain ⟨h0, hk⟩ := run_clean_bnd (s5_wf ..) h6 (i := i) (by simpa)
      (b := bnds[i]) (by simp)
    rw [← List.map_take, ← bL_eq_run] at h0 hk
    exact List.mem_reverse.mp (s6_keys h0 ▸ hk)
  cases e : buildProviderMap args imports provs vals flds bnds with
  | ok r => exact ⟨r, rfl⟩
  | error es =>
    -- a rejection would report some `multi t`, and then `t` has two sources
    obtain ⟨t, ht⟩ := bpm_error_multi _ _ _ _ _ _ hp e
    have := bpm_multi_named _ _ _ _ _ _ e ht
    have := List.nodup_iff_count.mp hnd t
    omega

theorem bpm_ok_of (hnd : (allSources args imports provs vals flds bnds).Nodup)
    (hp : ∀ b ∈ bnds, b.provided ∈ baseSources args imports provs vals flds) :
    ∃ r, buildProviderMap args imports provs vals flds bnds = .ok r :=
  bpm_ok_iff_pos.mpr ⟨hnd, fun _ hi => List.mem_append_left _ (hp _ (List.getElem_mem hi))⟩

theorem bpm_ok_iff (hnc : NoChainedBind bnds) :
    (∃ r, buildProviderMap args imports provs vals flds bnds = .ok r) ↔
      (allSources args imports provs vals flds bnds).Nodup ∧
      ∀ b ∈ bnds, b.provided ∈ baseSources args imports provs vals flds := by
  refine bpm_ok_iff_pos.trans (and_congr_right fun _ => ⟨fun h b hb => ?_, fun h _ hi =>
    List.mem_append_left _ (h _ (List.getElem_mem hi))⟩)
  obtain ⟨i, hi, rfl⟩ := List.getElem_of_mem hb
  exact (List.mem_append.mp (h i hi)).resolve_right fun hm =>
    hnc _ hb (List.map_subset _ (List.take_subset ..) hm)

variable {pm : PMap} {sm : SMap}

theorem ok_look_pm_iff (hnc : NoChainedBind bnds)
    (h : buildProviderMap args imports provs vals flds bnds = .ok (pm, sm)) (t : Ty) (v : PT) :
    look t pm = some v ↔
      (∃ src, (t, v, src) ∈ baseItems args imports provs vals flds) ∨
      (∃ b ∈ bnds, b.iface = t ∧ ∃ src, (b.provided, v, src) ∈ baseItems args imports provs vals flds) := by
  rw [ok_look_pm h]
  refine or_congr .rfl (exists_congr fun b => and_congr_right fun hb => and_congr_right fun _ => ?_)
  -- what sits under the concrete type is an item, since that type is no binding's interface
  rw [ok_look_pm h]
  exact or_iff_left fun ⟨b', hb', e, _⟩ => hnc b hb (e ▸ List.mem_map_of_mem hb')

end

theorem importsEach_items {l l' : List (Nat × PMap)} (h : ImportsEach l l') :
    (l.flatMap impItems).Perm (l'.flatMap impItems) := by
  induction h with
  | nil => exact .refl _
  | @cons a b _ _ h1 h2 _ ih =>
    simp only [List.flatMap_cons, impItems, h1]
    exact (h2.map _).append ih

theorem importsPerm_items {l l' : List (Nat × PMap)} (h : ImportsPerm l l') :
    (l.flatMap impItems).Perm (l'.flatMap impItems) :=
  h.elim fun _ ⟨h1, h2⟩ => (h1.flatMap_right _).trans (importsEach_items h2)

theorem baseItems_perm {args : Option (List Ty)} {imports imports' : List (Nat × PMap)}
    {provs provs' : List Prov} {vals vals' : List Val} {flds flds' : List Fld}
    (hi : ImportsPerm imports imports') (hp : provs.Perm provs') (hv : vals.Perm vals')
    (hf : flds.Perm flds') :
    (baseItems args imports provs vals flds).Perm (baseItems args imports' provs' vals' flds') :=
  ((List.Perm.refl _).append (importsPerm_items hi)).append
    (((hp.flatMap_right _).append (hv.map _)).append (hf.flatMap_right _))

theorem noChainedBind_perm {bnds bnds' : List Bnd} (hb : bnds.Perm bnds') (h : NoChainedBind bnds) :
    NoChainedBind bnds' :=
  fun b hbm hm => h b (hb.mem_iff.mpr hbm) ((hb.map _).mem_iff.mpr hm)

section
variable {args : Option (List Ty)} {imports imports' : List (Nat × PMap)}
  {provs provs' : List Prov} {vals vals' : List Val} {flds flds' : List Fld} {bnds bnds' : List Bnd}

/-- Acceptance (`bpm_ok_iff`) and every lookup (`ok_look_pm_iff`, `ok_look_sm`) are described
    through membership in the item list and in the bindings only. -/
theorem bpm_perm (hi : ImportsPerm imports imports') (hp : provs.Perm provs') (hv : vals.Perm vals')
    (hf : flds.Perm flds') (hb : bnds.Perm bnds') (hnc : NoChainedBind bnds) :
    ((∃ r, buildProviderMap args imports provs vals flds bnds = .ok r) ↔
     (∃ r, buildProviderMap args imports' provs' vals' flds' bnds' = .ok r)) ∧
    ∀ pm sm pm' sm', buildProviderMap args imports provs vals flds bnds = .ok (pm, sm) →
      buildProviderMap args imports' provs' vals' flds' bnds' = .ok (pm', sm') →
      ∀ t, look t pm = look t pm' ∧ look t sm = look t sm' := by
  have hitems := baseItems_perm (args := args) hi hp hv hf
  have hnc' := noChainedBind_perm hb hnc
  refine ⟨?_, fun pm sm pm' sm' h h' t => ⟨Option.ext fun v => ?_, Option.ext fun src => ?_⟩⟩
  · have hbase : (baseSources args imports provs vals flds).Perm (baseSources args imports' provs' vals' flds') := by
      rw [← keys_baseItems, ← keys_baseItems]
      exact hitems.map _
    rw [bpm_ok_iff hnc, bpm_ok_iff hnc', allSources, allSources, (hbase.append (hb.map _)).nodup_iff]
    simp only [hb.mem_iff, hbase.mem_iff]
  · rw [ok_look_pm_iff hnc h, ok_look_pm_iff hnc' h']
    simp only [hitems.mem_iff, hb.mem_iff]
  · rw [ok_look_sm h, ok_look_sm h']
    simp only [hitems.mem_iff, hb.mem_iff]

end

/-- With a chained binding the order matters: `Bind(I,J), Bind(J,C)` is rejected, `Bind(J,C), Bind(I,J)`
    accepted (I = 0, J = 1, C = 2). -/
theorem bpm_perm_fails_chained :
    ∃ (provs : List Prov) (bnds bnds' : List Bnd), bnds.Perm bnds' ∧ ¬ NoChainedBind bnds ∧
      buildProviderMap none [] provs [] [] bnds = .error [Err.bindMissing 0 1] ∧
      ∃ r, buildProviderMap none [] provs [] [] bnds' = .ok r := by
  refine ⟨[{ id := 7, args := [], outs := [2] }], [⟨1, 0, 1⟩, ⟨2, 1, 2⟩], [⟨2, 1, 2⟩, ⟨1, 0, 1⟩],
    List.Perm.swap _ _ _, ?_, rfl, _, rfl⟩
  intro h
  exact h ⟨1, 0, 1⟩ (by simp) (by simp)

end WireP.PMapProofs
