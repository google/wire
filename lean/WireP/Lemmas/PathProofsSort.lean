import WireV.Path
import WireP.Lemmas.ListAux
/-! For C16: `sortS` and the import block `frameImports`. -/
namespace WireP.PathProofs
open WireV WireP

theorem insertS_perm (x : String) (l : List String) : (insertS x l).Perm (x :: l) := by
  induction l with
  | nil => exact List.Perm.refl _
  | cons y ys ih =>
    simp only [insertS]
    split
    · exact List.Perm.refl _
    · exact (List.Perm.cons y ih).trans (List.Perm.swap x y ys)

theorem sortS_perm (l : List String) : (sortS l).Perm l := by
  induction l with
  | nil => exact List.Perm.refl _
  | cons x xs ih =>
    simp only [sortS]
    exact (insertS_perm x _).trans (List.Perm.cons x ih)

theorem insertS_sorted (x : String) {l : List String} (h : l.Pairwise (· ≤ ·)) :
    (insertS x l).Pairwise (· ≤ ·) := by
  induction l with
  | nil => simp [insertS]
  | cons y ys ih =>
    rw [List.pairwise_cons] at h
    simp only [insertS]
    split
    · rename_i hxy
      rw [List.pairwise_cons]
      refine ⟨?_, List.pairwise_cons.mpr h⟩
      intro z hz
      rcases List.mem_cons.mp hz with rfl | hz
      · exact hxy
      · exact String.le_trans hxy (h.1 z hz)
    · rename_i hxy
      have hyx : y ≤ x := (String.le_total x y).resolve_left hxy
      rw [List.pairwise_cons]
      refine ⟨?_, ih h.2⟩
      intro z hz
      rcases List.mem_cons.mp ((insertS_perm x ys).subset hz) with rfl | hz
      · exact hyx
      · exact h.1 z hz

theorem sortS_sorted (l : List String) : (sortS l).Pairwise (· ≤ ·) := by
  induction l with
  | nil => exact List.Pairwise.nil
  | cons x xs ih => exact insertS_sorted x ih

theorem eq_of_sorted_of_perm {l l' : List String} (h : l.Pairwise (· ≤ ·)) (h' : l'.Pairwise (· ≤ ·))
    (hp : l.Perm l') : l = l' :=
  hp.eq_of_pairwise (le := (· ≤ ·)) (fun _ _ _ _ => String.le_antisymm) h h'

theorem sortS_eq_of_perm {l l' : List String} (h : l.Perm l') : sortS l = sortS l' :=
  eq_of_sorted_of_perm (sortS_sorted l) (sortS_sorted l') ((sortS_perm l).trans (h.trans (sortS_perm l').symm))

theorem sortS_nodup {l : List String} : (sortS l).Nodup ↔ l.Nodup :=
  (sortS_perm l).nodup_iff

theorem sortS_idem (l : List String) : sortS (sortS l) = sortS l :=
  eq_of_sorted_of_perm (sortS_sorted _) (sortS_sorted l) (sortS_perm _)

/-- the lambda inside `WireV.frameImports` under a name, so that lemmas can mention it (`frameImports_eq` is `rfl`) -/
def importLine (imps : List ImportEnt) (p : String) : String :=
  match imps.find? (fun e => e.path == p) with
  | some e => if e.differs then s!"{e.name} \"{p}\"" else s!"\"{p}\""
  | none => ""

theorem frameImports_eq (imps : List ImportEnt) :
    frameImports imps = (sortS (imps.map (·.path))).map (importLine imps) := rfl

theorem find_path_perm {imps imps' : List ImportEnt} (hp : imps.Perm imps')
    (hnd : (imps.map (·.path)).Nodup) (p : String) :
    imps.find? (fun e => e.path == p) = imps'.find? (fun e => e.path == p) := by
  have hnd' : (imps'.map (·.path)).Nodup := (hp.map _).nodup_iff.mp hnd
  apply Option.ext
  intro e
  rw [find?_key_eq_some_iff hnd, find?_key_eq_some_iff hnd', hp.mem_iff]

theorem frame_perm {imps imps' : List ImportEnt} (hp : imps.Perm imps')
    (hnd : (imps.map (·.path)).Nodup) : frameImports imps = frameImports imps' := by
  rw [frameImports_eq, frameImports_eq, sortS_eq_of_perm (hp.map _)]
  exact List.map_congr_left fun p _ => by simp only [importLine, find_path_perm hp hnd p]

end WireP.PathProofs
