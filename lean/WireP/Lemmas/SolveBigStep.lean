import WireP.Lemmas.SolveInv
import WireP.Lemmas.Dfs
import WireP.Lemmas.Potential
/-! # A complete run of the planner machine

`svStep` is a step of the memoising depth-first search of `WireP.Dfs` over `kids pm` (`step_visit`:
under `ArgsGiven` an un-indexed type is never an injector argument once the given types are
indexed, so `argPop` does not occur).  For an acyclic map `Dfs.big` then says that the request is
consumed and indexed, within the weight of the newly indexed keys, which the fuel `svFuel pm`
covers.  Acyclicity enters the planner proofs through `halts` and `final_run` only. -/
namespace WireP.Solve
open WireV

section
variable {pm : PMap} {sm : SMap} {ng : Nat} {given : List Ty} {out : Ty} {s s' : SvSt}

theorem step_visit (hag : ArgsGiven pm given) (hg : ∀ g ∈ given, (look g s.index).isSome)
    {curr : Frame} {rest : List Frame} (hs : s.stk = curr :: rest) :
    ∃ s', svStep pm sm ng s = some s' ∧
      Dfs.Visit (fun s u => look u s.index) (fun s => s.stk.map (·.t)) (kids pm) s curr.t
        (rest.map (·.t)) s' := by
  obtain ⟨s', h1, h2⟩ := svStep_spec (pm := pm) (sm := sm) (ng := ng) hs
  refine ⟨s', h1, ?_⟩
  cases h2 with
  | pop c r i hs' hli => cases hs.symm.trans hs'; exact .hit (by simp [hli]) rfl rfl
  | argPop c r pt i hs' hli hlp hb hsrc =>
    have := hg c.t (hag c.t pt i hlp hb hsrc)
    rw [hli] at this; cases this
  | push c r hs' hli hm =>
    cases hs.symm.trans hs'
    exact .push _ hli hm (.refl _) (by simp [List.map_map, Function.comp_def, Dfs.todo, missingOf]) rfl
  | add c r v used' errs' calls' hs' hli hm hfl =>
    cases hs.symm.trans hs'
    exact .done v hli hm rfl (look_cons_self ..) fun u e => look_cons_ne _ _ e

end

abbrev wt (pm : PMap) : Ty → Nat := Potential.wtOf (fun kv => 1 + degOf kv) pm

theorem kids_length_succ_le_wt (pm : PMap) (t : Ty) :
    kids pm t ≠ [] → (kids pm t).length + 1 ≤ wt pm t := by
  unfold wt Potential.wtOf degOf
  cases h : look t pm with
  | none => simp [kids_none h]
  | some pt =>
    by_cases hb : pt.t = t
    · simp [kids_conc h hb, hb, Nat.add_comm]
    · simp [kids_bind h hb, hb]

theorem halts {pm : PMap} (sm : SMap) {given : List Ty} (hac : Acyclic pm) (hag : ArgsGiven pm given)
    (out : Ty) :
    ∃ n s, Iter.runO (svStep pm sm given.length) n (svInit given out) = some s ∧
      n + 1 ≤ svFuel pm ∧ s.stk = [] ∧ (look out s.index).isSome := by
  obtain ⟨n, s, new, hn, hs, ho, g, hc⟩ :=
    Dfs.big (memo := fun s u => look u s.index) (stk := fun s => s.stk.map (·.t))
      (kids := kids pm) (wt := wt pm) (I := fun s => ∀ g ∈ given, (look g s.index).isSome)
      (Subrelation.wf (fun h => mem_kids.mp h) hac) (kids_length_succ_le_wt pm)
      (fun s s' hi h g hg => (svStep_cases h).indexed (hi g hg))
      (fun s t rest hi hs => by
        cases h : s.stk with
        | nil => simp [h] at hs
        | cons curr r =>
          obtain ⟨rfl, rfl⟩ : curr.t = t ∧ r.map (·.t) = rest := by simpa [h] using hs
          exact step_visit hag hi h)
      out (svInit given out) []
      (fun _ => init_isSome.mpr) rfl
  have : (new.map (wt pm)).sum ≤ _ := Potential.sum_wtOf_le _ pm g.nodup
  exact ⟨n, s, hn, by unfold svFuel; unfold Dfs.cost at hc; omega, List.map_eq_nil_iff.mp hs, ho⟩

theorem final_run {pm : PMap} (sm : SMap) {given : List Ty} (hac : Acyclic pm)
    (hag : ArgsGiven pm given) (out : Ty) :
    (final pm sm given out).stk = [] ∧ (look out (final pm sm given out).index).isSome := by
  obtain ⟨n, s, hn, hle, hs, ho⟩ := halts sm hac hag out
  have : final pm sm given out = s := by
    unfold final
    rw [svIter_eq]
    exact Iter.run_of_runO hn (svStep_nil hs) (by omega)
  rw [this]; exact ⟨hs, ho⟩

end WireP.Solve
