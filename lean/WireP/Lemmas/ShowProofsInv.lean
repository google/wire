import WireP.Lemmas.ShowProofsDefs
/-! # The invariants of `WireV.gStep` (C19)

`Inv` relates `visited` and `groups` to `Leaf` and `Need`, `InvR` says that everything on the stack
or visited is reachable from the keys; every step keeps both, whether or not the map is acyclic. -/
namespace WireP.Show
open WireV WireP.Solve

structure Inv (pm : PMap) (s : GSt) : Prop where
  visND : (s.visited.map (·.1)).Nodup
  leafOk : ∀ t, look t s.visited = some none → Leaf pm t
  /-- in `∀ i, pt.src ≠ .arg i` the bound `i` is the argument position and shadows the group index -/
  grpOk : ∀ (t : Ty) (i : Nat), look t s.visited = some (some i) →
    ∃ g pt, s.groups[i]? = some g ∧ t ∈ g.outputs ∧ look t pm = some pt ∧ (∀ i, pt.src ≠ .arg i) ∧
      (∀ a ∈ depsOf pt.src, (look a s.visited).isSome) ∧ (∀ u, u ∈ g.inputs ↔ Need pm t u)
  outOk : ∀ (j : Nat) (g : Grp) (t : Ty), s.groups[j]? = some g → t ∈ g.outputs → look t s.visited = some (some j)
  /-- with `outOk` and `visND`: the outputs of all groups together list every assigned type once -/
  outND : ∀ (j : Nat) (g : Grp), s.groups[j]? = some g → g.outputs.Nodup
  /-- `gather_reach_free` takes an output of each group to find the group with the same inputs in
      the other run -/
  outNE : ∀ (j : Nat) (g : Grp), s.groups[j]? = some g → g.outputs ≠ []
  /-- makes `sameKeys` on input sets mean "same elements" (`sameKeys_iff_perm`), hence symmetric -/
  inND : ∀ (j : Nat) (g : Grp), s.groups[j]? = some g → g.inputs.Nodup
  distinct : ∀ (i j : Nat) (gi gj : Grp), i ≠ j → s.groups[i]? = some gi → s.groups[j]? = some gj →
    sameKeys gi.inputs gj.inputs = false

theorem Inv.init (pm : PMap) : Inv pm {} :=
  ⟨.nil, nofun, nofun, nofun, nofun, nofun, nofun, nofun⟩

theorem Inv.of_stk {pm s} (h : Inv pm s) (stk : List Ty) : Inv pm { s with stk := stk } :=
  ⟨h.visND, h.leafOk, h.grpOk, h.outOk, h.outND, h.outNE, h.inND, h.distinct⟩

theorem Inv.distinct_mem {pm s} (h : Inv pm s) {i j : Nat} {gi gj : Grp} (hij : i ≠ j)
    (hi : s.groups[i]? = some gi) (hj : s.groups[j]? = some gj) :
    ¬ ∀ u, u ∈ gi.inputs ↔ u ∈ gj.inputs := by
  intro hall
  have hd := h.distinct i j gi gj hij hi hj
  rw [(sameKeys_iff_perm (h.inND i gi hi)).mpr
    ((List.perm_ext_iff_of_nodup (h.inND i gi hi) (h.inND j gj hj)).mpr hall)] at hd
  cases hd

theorem Inv.same_group {pm : PMap} {s : GSt} (hI : Inv pm s) {t x : Ty} {j j2 : Nat}
    (ht : look t s.visited = some (some j)) (hx : look x s.visited = some (some j2))
    (hsame : ∀ u, Need pm x u ↔ Need pm t u) : j2 = j := by
  obtain ⟨g, _, hg, _, _, _, _, hin⟩ := hI.grpOk t j ht
  obtain ⟨g2, _, hg2, _, _, _, _, hin2⟩ := hI.grpOk x j2 hx
  refine Classical.byContradiction fun e => hI.distinct_mem e hg2 hg fun u => ?_
  rw [hin2 u, hin u, hsame u]

theorem Inv.output {pm s} (h : Inv pm s) {j : Nat} {g : Grp} {x : Ty} (hg : s.groups[j]? = some g)
    (hx : x ∈ g.outputs) : look x s.visited = some (some j) ∧
      (∃ pt, look x pm = some pt ∧ ∀ i, pt.src ≠ .arg i) ∧ ∀ u, u ∈ g.inputs ↔ Need pm x u := by
  have hxv := h.outOk j g x hg hx
  obtain ⟨g', pt, hg', _, hl, hna, _, hin⟩ := h.grpOk x j hxv
  rw [hg] at hg'; cases hg'
  exact ⟨hxv, ⟨pt, hl, hna⟩, hin⟩

theorem Inv.assigned {pm s} (h : Inv pm s) {x : Ty} (hv : (look x s.visited).isSome)
    (hnl : ¬ Leaf pm x) : ∃ j, look x s.visited = some (some j) := by
  obtain ⟨v, hv⟩ := Option.isSome_iff_exists.mp hv
  cases v with
  | none => exact absurd (h.leafOk x hv) hnl
  | some j => exact ⟨j, hv⟩

theorem Inv.closed {pm s} (h : Inv pm s) {a b : Ty} (hv : (look a s.visited).isSome)
    (hd : gdep pm a b) : (look b s.visited).isSome := by
  obtain ⟨pt, hl, hna, hb⟩ := hd
  obtain ⟨i, hi⟩ := h.assigned hv (not_leaf hl hna)
  obtain ⟨_, pt', _, _, h3, _, h5, _⟩ := h.grpOk a i hi
  rw [hl] at h3; cases h3
  exact h5 b hb

theorem mem_foldl_union (f : Ty → List Ty) (u : Ty) : ∀ (deps init : List Ty),
    u ∈ deps.foldl (fun acc a => unionTy acc (f a)) init ↔ u ∈ init ∨ ∃ a ∈ deps, u ∈ f a
  | [], init => by simp
  | a :: deps, init => by
    simp only [List.foldl_cons, mem_foldl_union f u deps, mem_unionTy, List.mem_cons,
      exists_eq_or_imp, or_assoc]

theorem nodup_foldl_union (f : Ty → List Ty) : ∀ (deps init : List Ty), init.Nodup →
    (∀ a ∈ deps, (f a).Nodup) → (deps.foldl (fun acc a => unionTy acc (f a)) init).Nodup
  | [], _, hi, _ => hi
  | a :: deps, _, hi, hf =>
    nodup_foldl_union f deps _ (nodup_unionTy hi (hf a List.mem_cons_self))
      (fun b hb => hf b (List.mem_cons_of_mem _ hb))

theorem mem_insOf {s : GSt} {deps : List Ty} {u : Ty} :
    u ∈ insOf s deps ↔ ∃ a ∈ deps, u ∈ inputsOfDep s a := by
  unfold insOf
  rw [mem_foldl_union (inputsOfDep s) u deps []]
  simp

theorem Inv.nodup_inputsOfDep {pm s} (h : Inv pm s) (a : Ty) : (inputsOfDep s a).Nodup := by
  unfold inputsOfDep
  split
  · simp
  · rename_i i _
    cases hg : s.groups[i]? with
    | none => simp
    | some g => exact h.inND i g hg
  · simp

theorem Inv.nodup_insOf {pm s} (h : Inv pm s) (deps : List Ty) : (insOf s deps).Nodup :=
  nodup_foldl_union _ deps [] (by simp) (fun a _ => h.nodup_inputsOfDep a)

theorem Inv.mem_inputsOfDep {pm s} (h : Inv pm s) {a : Ty} (hv : (look a s.visited).isSome)
    (u : Ty) : u ∈ inputsOfDep s a ↔ Need pm a u := by
  unfold inputsOfDep
  cases hl : look a s.visited with
  | none => rw [hl] at hv; cases hv
  | some v =>
    cases v with
    | none =>
      simp only [List.mem_singleton]
      exact (need_leaf (h.leafOk a hl)).symm
    | some i =>
      obtain ⟨g, pt, hg, _, _, _, _, hin⟩ := h.grpOk a i hl
      simp only [hg]
      exact hin u

theorem Inv.mem_insOf_need {pm s} (h : Inv pm s) {t : Ty} {pt : PT} (hl : look t pm = some pt)
    (hna : ∀ i, pt.src ≠ .arg i) (hall : ∀ a ∈ depsOf pt.src, (look a s.visited).isSome) (u : Ty) :
    u ∈ insOf s (depsOf pt.src) ↔ Need pm t u := by
  rw [mem_insOf, need_node hl hna]
  exact exists_congr fun a => and_congr_right fun ha => h.mem_inputsOfDep (hall a ha) u

theorem Inv.addLeaf {pm s} {curr : Ty} (h : Inv pm s) (hv : look curr s.visited = none)
    (hlf : Leaf pm curr) (rest : List Ty) :
    Inv pm { s with stk := rest, visited := (curr, none) :: s.visited } := by
  refine ⟨List.nodup_cons.mpr ⟨look_eq_none_iff.mp hv, h.visND⟩, ?_, ?_, ?_,
    h.outND, h.outNE, h.inND, h.distinct⟩
  · intro t ht
    rcases (look_cons_fresh hv).mp ht with ⟨rfl, _⟩ | ht
    · exact hlf
    · exact h.leafOk t ht
  · intro t i ht
    rcases (look_cons_fresh hv).mp ht with ⟨_, e⟩ | ht
    · cases e
    · obtain ⟨g, pt, h1, h2, h3, h4, h5, h6⟩ := h.grpOk t i ht
      exact ⟨g, pt, h1, h2, h3, h4, fun a ha => isSome_keep (h5 a ha), h6⟩
  · intro j g t hj ht
    exact look_keep hv (h.outOk j g t hj ht)

theorem Inv.addGroup {pm s} {curr : Ty} {ins : List Ty} {pt : PT} (h : Inv pm s)
    (hv : look curr s.visited = none) (hl : look curr pm = some pt) (hna : ∀ i, pt.src ≠ .arg i)
    (hdeps : ∀ a ∈ depsOf pt.src, (look a s.visited).isSome)
    (hins : ∀ u, u ∈ ins ↔ Need pm curr u) (hinsnd : ins.Nodup) (rest : List Ty) :
    Inv pm (addToGroup s curr ins rest) := by
  obtain ⟨i, gnew, hvis, _, hgrp, hcase⟩ := addToGroup_spec s curr ins rest
  generalize addToGroup s curr ins rest = s' at hvis hgrp ⊢
  -- what the two cases have in common: the new group lists the outputs `old` of the group that was
  -- at `i`, if any, and then `curr`; its inputs are what `curr` requires, unlike any other group's
  obtain ⟨old, hout, hold, holdv, holdnd, hin, hnd, hdist⟩ : ∃ old, gnew.outputs = old ++ [curr] ∧
      (∀ g : Grp, s.groups[i]? = some g → g.inputs = gnew.inputs ∧ g.outputs = old) ∧
      (∀ t ∈ old, look t s.visited = some (some i)) ∧ old.Nodup ∧
      (∀ u, u ∈ gnew.inputs ↔ Need pm curr u) ∧ gnew.inputs.Nodup ∧
      (∀ (j : Nat) (gj : Grp), j ≠ i → s.groups[j]? = some gj →
        sameKeys gnew.inputs gj.inputs = false) := by
    rcases hcase with ⟨g, hgi, hsame, rfl⟩ | ⟨hgi, hnone, rfl⟩
    · have hgnd := h.inND i g hgi
      refine ⟨g.outputs, rfl, fun g' hg' => ?_, fun t ht => h.outOk i g t hgi ht, h.outND i g hgi,
        fun u => ((sameKeys_iff_perm hgnd).mp hsame).mem_iff.trans (hins u), hgnd,
        fun j gj hj hgj => h.distinct i j g gj (fun e => hj e.symm) hgi hgj⟩
      rw [hgi] at hg'; cases hg'; exact ⟨rfl, rfl⟩
    · refine ⟨[], rfl, fun g hg => ?_, nofun, .nil, hins, hinsnd, fun j gj _ hgj => ?_⟩
      · rw [hgi] at hg; cases hg
      · rw [sameKeys_comm hinsnd (h.inND j gj hgj)]
        exact hnone gj (List.mem_of_getElem? hgj)
  -- a group of the new state is the new one at `i` or an old one elsewhere
  have hsplit : ∀ {j g}, s'.groups[j]? = some g →
      (j = i ∧ g = gnew) ∨ (j ≠ i ∧ s.groups[j]? = some g) := by
    intro j g hj
    rw [hgrp] at hj
    by_cases e : j = i
    · rw [if_pos e] at hj; cases hj; exact .inl ⟨e, rfl⟩
    · rw [if_neg e] at hj; exact .inr ⟨e, hj⟩
  have hgi' : s'.groups[i]? = some gnew := by rw [hgrp, if_pos rfl]
  have hkeep : ∀ {a}, (look a s.visited).isSome → (look a s'.visited).isSome :=
    fun ha => hvis ▸ isSome_keep ha
  refine ⟨?_, ?_, ?_, ?_, ?_, ?_, ?_, ?_⟩
  · rw [hvis]; exact List.nodup_cons.mpr ⟨look_eq_none_iff.mp hv, h.visND⟩
  · intro t ht
    rcases (look_cons_fresh hv).mp (hvis ▸ ht) with ⟨_, e⟩ | ht
    · cases e
    · exact h.leafOk t ht
  · intro t k ht
    rcases (look_cons_fresh hv).mp (hvis ▸ ht) with ⟨rfl, e⟩ | ht
    · cases e
      exact ⟨gnew, pt, hgi', by simp [hout], hl, hna, fun a ha => hkeep (hdeps a ha), hin⟩
    · obtain ⟨g, pt', h1, h2, h3, h4, h5, h6⟩ := h.grpOk t k ht
      by_cases ek : k = i
      · subst ek
        obtain ⟨hi1, rfl⟩ := hold g h1
        exact ⟨gnew, pt', hgi', by simp [hout, h2], h3, h4, fun a ha => hkeep (h5 a ha),
          hi1 ▸ h6⟩
      · exact ⟨g, pt', by rw [hgrp, if_neg ek]; exact h1, h2, h3, h4,
          fun a ha => hkeep (h5 a ha), h6⟩
  · intro j g t hj ht
    rw [hvis]
    rcases hsplit hj with ⟨rfl, rfl⟩ | ⟨_, hj⟩
    · rw [hout, List.mem_append, List.mem_singleton] at ht
      rcases ht with ht | rfl
      · exact look_keep hv (holdv t ht)
      · exact look_cons_self _ _ _
    · exact look_keep hv (h.outOk j g t hj ht)
  · intro j g hj
    rcases hsplit hj with ⟨rfl, rfl⟩ | ⟨_, hj⟩
    · rw [hout, nodup_concat]
      refine ⟨fun hc => ?_, holdnd⟩
      rw [holdv curr hc] at hv; cases hv
    · exact h.outND j g hj
  · intro j g hj
    rcases hsplit hj with ⟨rfl, rfl⟩ | ⟨_, hj⟩
    · simp [hout]
    · exact h.outNE j g hj
  · intro j g hj
    rcases hsplit hj with ⟨rfl, rfl⟩ | ⟨_, hj⟩
    · exact hnd
    · exact h.inND j g hj
  · intro a b ga gb hab ha hb
    rcases hsplit ha with ⟨rfl, rfl⟩ | ⟨ea, ha⟩
    · rcases hsplit hb with ⟨rfl, _⟩ | ⟨eb, hb⟩
      · exact absurd rfl hab
      · exact hdist b gb eb hb
    · rcases hsplit hb with ⟨rfl, rfl⟩ | ⟨_, hb⟩
      · rw [sameKeys_comm (h.inND a ga ha) hnd]; exact hdist a ga ea ha
      · exact h.distinct a b ga gb hab ha hb

theorem Inv.step {pm s s'} {curr : Ty} {rest : List Ty} (h : Inv pm s)
    (hst : Step pm s curr rest s') : Inv pm s' := by
  cases hst with
  | pop v hv => exact h.of_stk rest
  | leaf hv hlf => exact h.addLeaf hv hlf rest
  | push pt hv hl hna hm => exact h.of_stk _
  | group pt hv hl hna hm =>
    have hall := missing_nil hm
    exact h.addGroup hv hl hna hall (h.mem_insOf_need hl hna hall) (h.nodup_insOf _) rest

theorem Inv.gstep {pm s s'} (h : Inv pm s) (hst : gStep pm s = some s') : Inv pm s' :=
  let ⟨_, _, _, hs⟩ := gStep_cases hst
  h.step hs

theorem Inv.gIter {pm} (n : Nat) {s : GSt} (hI : Inv pm s) : Inv pm (gIter pm n s) :=
  gIter_eq pm ▸ Iter.run_induct (Inv pm) (fun _ _ => Inv.gstep) n hI

structure InvR (pm : PMap) (keys : List Ty) (s : GSt) : Prop where
  stkR : ∀ t ∈ s.stk, ∃ k ∈ keys, GReach pm k t
  visR : ∀ t, (look t s.visited).isSome → ∃ k ∈ keys, GReach pm k t

theorem InvR.init (pm : PMap) (keys : List Ty) : InvR pm keys {} :=
  ⟨nofun, nofun⟩

theorem InvR.add {pm keys s s'} {curr : Ty} {rest : List Ty} {v : Option Nat} (h : InvR pm keys s)
    (hs : s.stk = curr :: rest) (hstk : s'.stk = rest) (hvis : s'.visited = (curr, v) :: s.visited) :
    InvR pm keys s' := by
  refine ⟨?_, ?_⟩
  · intro t ht; rw [hstk] at ht
    exact h.stkR t (by rw [hs]; exact List.mem_cons_of_mem _ ht)
  · intro t ht
    rcases look_cons_isSome.mp (hvis ▸ ht) with rfl | ht
    · exact h.stkR t (by rw [hs]; exact List.mem_cons_self)
    · exact h.visR t ht

theorem InvR.step {pm keys s s'} {curr : Ty} {rest : List Ty} (h : InvR pm keys s)
    (hs : s.stk = curr :: rest) (hst : Step pm s curr rest s') : InvR pm keys s' := by
  cases hst with
  | pop v hv =>
    exact ⟨fun t ht => h.stkR t (by rw [hs]; exact List.mem_cons_of_mem _ ht), h.visR⟩
  | leaf hv hlf => exact h.add hs rfl rfl
  | push pt hv hl hna hm =>
    refine ⟨?_, h.visR⟩
    intro t ht
    simp only [List.mem_append, List.mem_reverse] at ht
    rcases ht with ht | ht
    · obtain ⟨k, hk, hr⟩ := h.stkR curr (by rw [hs]; exact List.mem_cons_self)
      exact ⟨k, hk, hr.trans (.single ⟨pt, hl, hna, (missing_sub ht).1⟩)⟩
    · exact h.stkR t (by rw [hs]; exact ht)
  | group pt hv hl hna hm =>
    obtain ⟨i, _, hvis, hstk, _⟩ := addToGroup_spec s curr (insOf s (depsOf pt.src)) rest
    exact h.add hs hstk hvis

theorem InvR.gstep {pm keys s s'} (h : InvR pm keys s) (hst : gStep pm s = some s') :
    InvR pm keys s' :=
  let ⟨_, _, hs, hst⟩ := gStep_cases hst
  h.step hs hst

theorem InvR.iterO {pm keys n s s'} (h : iterO pm n s = some s') (hI : InvR pm keys s) :
    InvR pm keys s' :=
  Iter.runO_induct (InvR pm keys) (fun _ _ => InvR.gstep) (iterO_eq pm ▸ h) hI

end WireP.Show
