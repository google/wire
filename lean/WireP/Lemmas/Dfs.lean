import WireP.Lemmas.Iter
import WireP.Lemmas.ListAux
/-! # Memoising depth-first search as a stack machine

`solve` (analyze.go), its simplified version `WS.step` and `gather` (cmd/wire) are the same loop:
pop a key; if it is memoised drop it; otherwise push its un-memoised children above it, or, when
there are none, memoise it.  `Visit` is one such step of an abstract machine; `big` is the one
argument about these machines: over a well-founded child relation the top of the stack is consumed
in a number of steps bounded by the weight of the new memo entries. -/
namespace WireP.Dfs
open WireP.Iter

variable {σ κ β : Type}

section search
variable (memo : σ → κ → Option β) (stk : σ → List κ) (kids : κ → List κ)

def todo (s : σ) (t : κ) : List κ := (kids t).filter fun a => (memo s a).isNone

inductive Visit (s : σ) (t : κ) (rest : List κ) (s' : σ) : Prop
  | hit : (memo s t).isSome → stk s' = rest → memo s' = memo s → Visit s t rest s'
  | push (l : List κ) : memo s t = none → todo memo kids s t ≠ [] → l.Perm (todo memo kids s t) →
      stk s' = l ++ t :: rest → memo s' = memo s → Visit s t rest s'
  | done (v : β) : memo s t = none → todo memo kids s t = [] → stk s' = rest →
      memo s' t = some v → (∀ u, u ≠ t → memo s' u = memo s u) → Visit s t rest s'

/-- what a run from `s` to `s'` added to the memo table -/
structure Grew (P : κ → Prop) (s s' : σ) (new : List κ) : Prop where
  keep : ∀ u v, memo s u = some v → memo s' u = some v
  only : ∀ u, (memo s' u).isSome → (memo s u).isSome ∨ u ∈ new
  fresh : ∀ u ∈ new, memo s u = none ∧ (memo s' u).isSome ∧ P u
  nodup : new.Nodup

variable {memo}

theorem Grew.refl {P : κ → Prop} {s s' : σ} (h : memo s' = memo s) : Grew memo P s s' [] :=
  ⟨fun _ _ hu => h ▸ hu, fun _ hu => .inl (h ▸ hu), nofun, .nil⟩

theorem Grew.add {P : κ → Prop} {s s' : σ} {t : κ} {v : β} (hn : memo s t = none)
    (hv : memo s' t = some v) (ho : ∀ u, u ≠ t → memo s' u = memo s u) (hp : P t) :
    Grew memo P s s' [t] where
  keep u w hu := by
    rw [ho u (fun e => by rw [e, hn] at hu; cases hu)]; exact hu
  only u hu := Classical.byCases (fun e : u = t => .inr (by simp [e]))
    fun e => .inl (by rw [← ho u e]; exact hu)
  fresh u hu := by
    obtain rfl : u = t := by simpa using hu
    exact ⟨hn, by simp [hv], hp⟩
  nodup := by simp

theorem Grew.isSome {P : κ → Prop} {s s' : σ} {new : List κ} (h : Grew memo P s s' new) {u : κ}
    (hu : (memo s u).isSome) : (memo s' u).isSome := by
  obtain ⟨v, hv⟩ := Option.isSome_iff_exists.mp hu
  simp [h.keep u v hv]

theorem Grew.trans {P Q Q' : κ → Prop} {s s1 s2 : σ} {n1 n2 : List κ} (h1 : Grew memo P s s1 n1)
    (h2 : Grew memo Q s1 s2 n2) (hP : ∀ u, P u → Q' u) (hQ : ∀ u, Q u → Q' u) :
    Grew memo Q' s s2 (n1 ++ n2) where
  keep u v hu := h2.keep u v (h1.keep u v hu)
  only u hu := by
    rcases h2.only u hu with h | h
    · rcases h1.only u h with h | h
      · exact .inl h
      · exact .inr (List.mem_append_left _ h)
    · exact .inr (List.mem_append_right _ h)
  fresh u hu := by
    rcases List.mem_append.mp hu with h | h
    · obtain ⟨a, b, c⟩ := h1.fresh u h
      exact ⟨a, h2.isSome b, hP u c⟩
    · obtain ⟨a, b, c⟩ := h2.fresh u h
      refine ⟨?_, b, hQ u c⟩
      cases hx : memo s u with
      | none => rfl
      | some v => rw [h1.keep u v hx] at a; cases a
  nodup := List.nodup_append.mpr ⟨h1.nodup, h2.nodup, fun a ha b hb e => by
    have := (h1.fresh a ha).2.1
    rw [e, (h2.fresh b hb).1] at this; cases this⟩

end search

section big
variable {memo : σ → κ → Option β} {stk : σ → List κ} {step : σ → Option σ} {kids : κ → List κ}
  {wt : κ → Nat} {I : σ → Prop}

abbrev cost (wt : κ → Nat) (new : List κ) : Nat := (new.map wt).sum

/-- `u` is `t` or below it -/
def Desc (kids : κ → List κ) (t u : κ) : Prop :=
  u = t ∨ Relation.TransGen (fun u t => u ∈ kids t) u t

theorem Desc.up {t a u : κ} (ha : a ∈ kids t) : Desc kids a u → Desc kids t u
  | .inl e => .inr (e ▸ .single ha)
  | .inr h => .inr (h.tail ha)

/-- no key is below one of its children -/
theorem Desc.not_child (hwf : WellFounded fun u t => u ∈ kids t) {t a : κ} (ha : a ∈ kids t) :
    ¬ Desc kids a t
  | .inl e => not_transGen_self hwf t (.single (e ▸ ha))
  | .inr h => not_transGen_self hwf t (h.tail ha)

/- `I` is what the instance needs of every state to have `hstep` (for `solve`: the given types stay
   indexed, which rules out its `argPop` step).  A key with children is visited twice, to push them
   and to be memoised: the `+ 1` in `hwt` pays for the second visit. -/
variable (hwf : WellFounded fun u t => u ∈ kids t)
  (hwt : ∀ t, kids t ≠ [] → (kids t).length + 1 ≤ wt t)
  (hI : ∀ s s', I s → step s = some s' → I s')
  (hstep : ∀ s t rest, I s → stk s = t :: rest →
    ∃ s', step s = some s' ∧ Visit memo stk kids s t rest s')

/-- consuming `t` from the top of the stack -/
def Goal (memo : σ → κ → Option β) (stk : σ → List κ) (step : σ → Option σ) (kids : κ → List κ)
    (wt : κ → Nat) (I : σ → Prop) (t : κ) : Prop :=
  ∀ s rest, I s → stk s = t :: rest → ∃ n s' new, runO step n s = some s' ∧ stk s' = rest ∧
    (memo s' t).isSome ∧ Grew memo (Desc kids t) s s' new ∧ n ≤ 1 + cost wt new

include hI in
theorem big_list (l : List κ) (ih : ∀ a ∈ l, Goal memo stk step kids wt I a) :
    ∀ s rest, I s → stk s = l ++ rest → ∃ n s' new, runO step n s = some s' ∧ stk s' = rest ∧
      (∀ a ∈ l, (memo s' a).isSome) ∧ Grew memo (fun u => ∃ a ∈ l, Desc kids a u) s s' new ∧
      n ≤ l.length + cost wt new := by
  induction l with
  | nil => exact fun s rest _ hs => ⟨0, s, [], rfl, hs, nofun, .refl rfl, Nat.le_refl _⟩
  | cons a l ihl =>
    intro s rest hi hs
    obtain ⟨n1, s1, new1, h1, hs1, ha1, g1, c1⟩ := ih a List.mem_cons_self s (l ++ rest) hi hs
    obtain ⟨n2, s2, new2, h2, hs2, hl2, g2, c2⟩ :=
      ihl (fun b hb => ih b (List.mem_cons_of_mem _ hb)) s1 rest (runO_induct I hI h1 hi) hs1
    refine ⟨n1 + n2, s2, new1 ++ new2, runO_comp h1 h2, hs2, ?_,
      g1.trans g2 (fun u h => ⟨a, List.mem_cons_self, h⟩)
        (fun u ⟨b, hb, h⟩ => ⟨b, List.mem_cons_of_mem _ hb, h⟩), ?_⟩
    · intro b hb
      rcases List.mem_cons.mp hb with rfl | hb
      · exact g2.isSome ha1
      · exact hl2 b hb
    · simp only [cost, List.map_append, List.sum_append, List.length_cons] at c1 c2 ⊢
      omega

include hwf hwt hI hstep in
theorem big (t : κ) : Goal memo stk step kids wt I t := by
  induction t using hwf.induction with
  | _ t ih =>
    intro s rest hi hs
    obtain ⟨s0, h0, hv⟩ := hstep s t rest hi hs
    cases hv with
    | hit hm hk he => exact ⟨1, s0, [], runO_one h0, hk, by rw [he]; exact hm, .refl he, by simp⟩
    | done v hm _ hk hv ho =>
      exact ⟨1, s0, [t], runO_one h0, hk, by simp [hv], .add hm hv ho (.inl rfl), by simp⟩
    | push l hm hne hp hk he =>
      -- the children are consumed by the induction hypothesis; `t` is below none of them, so it is
      -- still absent afterwards, and nothing is left to push at the second visit
      have hkid : ∀ a ∈ l, a ∈ kids t := fun a ha => (List.mem_filter.mp (hp.mem_iff.mp ha)).1
      obtain ⟨n1, s1, new1, h1, hs1, hl1, g1, c1⟩ :=
        big_list hI l (fun a ha => ih a (hkid a ha)) s0 (t :: rest) (hI s s0 hi h0) hk
      have hi1 := runO_induct I hI h1 (hI s s0 hi h0)
      have hm1 : memo s1 t = none := by
        cases hx : memo s1 t with
        | none => rfl
        | some v =>
          rcases g1.only t (by simp [hx]) with h | h
          · rw [he, hm] at h; cases h
          · obtain ⟨_, _, a, ha, hr⟩ := g1.fresh t h
            exact (Desc.not_child hwf (hkid a ha) hr).elim
      obtain ⟨s2, h2, hv2⟩ := hstep s1 t rest hi1 hs1
      have hall : todo memo kids s1 t = [] := by
        refine List.filter_eq_nil_iff.mpr fun a ha hn => ?_
        have : (memo s1 a).isSome := by
          cases hx : memo s a with
          | none => exact hl1 a (hp.mem_iff.mpr (List.mem_filter.mpr ⟨ha, by simp [hx]⟩))
          | some v => simp [g1.keep a v (he ▸ hx)]
        rw [Option.isNone_iff_eq_none.mp hn] at this; cases this
      cases hv2 with
      | hit hm2 => rw [hm1] at hm2; cases hm2
      | push _ _ hne2 => exact absurd hall hne2
      | done v _ _ hk2 hv2 ho2 =>
        refine ⟨1 + n1 + 1, s2, new1 ++ [t], runO_comp (runO_comp (runO_one h0) h1) (runO_one h2),
          hk2, by simp [hv2], ?_, ?_⟩
        · exact ((Grew.refl (P := fun _ => False) he).trans g1 (fun _ => False.elim)
            fun u ⟨a, ha, hr⟩ => hr.up (hkid a ha)).trans (.add hm1 hv2 ho2 (.inl rfl))
              (fun _ h => h) (fun _ h => h)
        · have hlen : l.length ≤ (kids t).length := hp.length_eq ▸ List.length_filter_le _ _
          have := hwt t (fun e => hne (by simp [todo, e]))
          simp only [cost, List.map_append, List.sum_append, List.map_cons, List.map_nil,
            List.sum_cons, List.sum_nil] at c1 ⊢
          omega

end big

end WireP.Dfs
