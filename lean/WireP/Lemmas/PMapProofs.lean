import WireP.Lemmas.PMapRun
/-! What `buildProviderMap` rejects, accepts and returns (C05).  It is one run of the request list `reqs`
from the empty state, looked at three times on the way (`bpm_cases`); the rest are the facts of `PMapRun`
read at that list. -/

namespace WireP.C05
open WireV
-- the vocabulary of the statements in `WireP/Props/C05.lean`

/-- Every type a set provides other than by a binding, one entry per source (so `Nodup` says: no type has
    two sources). -/
def baseSources (args : Option (List Ty)) (imports : List (Nat × PMap)) (provs : List Prov)
    (vals : List Val) (flds : List Fld) : List Ty :=
  args.getD [] ++ imports.flatMap (fun ip => ip.2.map (·.1)) ++ provs.flatMap (·.outs)
    ++ vals.map (·.out) ++ flds.flatMap (·.outs)

def allSources (args : Option (List Ty)) (imports : List (Nat × PMap)) (provs : List Prov)
    (vals : List Val) (flds : List Fld) (bnds : List Bnd) : List Ty :=
  baseSources args imports provs vals flds ++ bnds.map (·.iface)

/-- the full description of an accepted result -/
structure LookupSpec (args : Option (List Ty)) (imports : List (Nat × PMap)) (provs : List Prov)
    (vals : List Val) (flds : List Fld) (bnds : List Bnd) (pm : PMap) (sm : SMap) : Prop where
  pm_keys : ∀ t, (look t pm).isSome ↔ t ∈ allSources args imports provs vals flds bnds
  sm_keys : ∀ t, (look t sm).isSome ↔ t ∈ allSources args imports provs vals flds bnds
  pm_nodup : (pm.map (·.1)).Nodup
  sm_nodup : (sm.map (·.1)).Nodup
  arg : ∀ i t, (args.getD [])[i]? = some t → look t pm = some ⟨t, .arg i⟩ ∧ look t sm = some (.arg i)
  imp : ∀ ip ∈ imports, ∀ kv ∈ ip.2, look kv.1 pm = some kv.2 ∧ look kv.1 sm = some (.imp ip.1)
  prov : ∀ p ∈ provs, ∀ t ∈ p.outs, look t pm = some ⟨t, .prov p⟩ ∧ look t sm = some (.prov p.id)
  val : ∀ v ∈ vals, look v.out pm = some ⟨v.out, .val v⟩ ∧ look v.out sm = some (.val v.id)
  fld : ∀ f ∈ flds, ∀ t ∈ f.outs, look t pm = some ⟨t, .fld f⟩ ∧ look t sm = some (.fld f.id)
  bnd : ∀ b ∈ bnds, ∃ c, look b.provided pm = some c ∧ look b.iface pm = some c ∧
          look b.iface sm = some (.bnd b.id)

end WireP.C05

namespace WireP.PMapProofs
open WireV WireP.C05

theorem keys_argItems (a : List Ty) : keys (argItems a) = a := by
  simp only [keys, argItems, List.map_map, Function.comp_def]
  exact List.zipIdx_map_fst 0 a
theorem keys_optArgItems (args : Option (List Ty)) : keys (optArgItems args) = args.getD [] := by
  cases args with
  | none => rfl
  | some a => exact keys_argItems a
theorem keys_impItems (ip : Nat × PMap) : keys (impItems ip) = ip.2.map (·.1) := by
  simp [keys, impItems, Function.comp_def]
theorem keys_provItems (p : Prov) : keys (provItems p) = p.outs := by
  simp [keys, provItems, Function.comp_def]
theorem keys_fldItems (f : Fld) : keys (fldItems f) = f.outs := by
  simp [keys, fldItems, Function.comp_def]
theorem keys_flatMap {α : Type} (f : α → List Item) (l : List α) :
    keys (l.flatMap f) = l.flatMap (fun a => keys (f a)) := by
  simp [keys, List.map_flatMap]

theorem keys_baseItems (args : Option (List Ty)) (imports : List (Nat × PMap)) (provs : List Prov)
    (vals : List Val) (flds : List Fld) :
    keys (baseItems args imports provs vals flds) = baseSources args imports provs vals flds := by
  simp only [baseItems, items1, items2, keys_append, keys_optArgItems, keys_flatMap, keys_impItems,
    keys_provItems, keys_fldItems, baseSources, List.append_assoc]
  simp [keys, valItem, Function.comp_def]

theorem mem_optArgItems_iff {args : Option (List Ty)} {x : Item} :
    x ∈ optArgItems args ↔ ∃ i t, (args.getD [])[i]? = some t ∧ x = (t, ⟨t, .arg i⟩, .arg i) := by
  cases args with
  | none => simp [optArgItems]
  | some a =>
    simp only [optArgItems, argItems, List.mem_map, List.mem_zipIdx_iff_getElem?, Prod.exists, Option.getD_some]
    exact ⟨fun ⟨t, i, h, e⟩ => ⟨i, t, h, e.symm⟩, fun ⟨i, t, h, e⟩ => ⟨t, i, h, e.symm⟩⟩

theorem mem_baseItems_iff {args : Option (List Ty)} {imports : List (Nat × PMap)} {provs : List Prov}
    {vals : List Val} {flds : List Fld} {x : Item} : x ∈ baseItems args imports provs vals flds ↔
    (∃ i t, (args.getD [])[i]? = some t ∧ x = (t, ⟨t, .arg i⟩, .arg i)) ∨
    (∃ ip ∈ imports, ∃ kv ∈ ip.2, x = (kv.1, kv.2, .imp ip.1)) ∨
    (∃ p ∈ provs, ∃ t ∈ p.outs, x = (t, ⟨t, .prov p⟩, .prov p.id)) ∨
    (∃ v ∈ vals, x = (v.out, ⟨v.out, .val v⟩, .val v.id)) ∨
    (∃ f ∈ flds, ∃ t ∈ f.outs, x = (t, ⟨t, .fld f⟩, .fld f.id)) := by
  simp only [baseItems, items1, items2, impItems, provItems, valItem, fldItems, List.mem_append,
    List.mem_flatMap, List.mem_map, mem_optArgItems_iff, or_assoc, eq_comm (a := x)]

/-- Errors are only ever appended, so of three successive checks the last decides acceptance, and a
    rejection returns a non-empty prefix of what the last check would see. -/
theorem checks_cases {α : Type} {e₁ e₂ e₃ : List Err} (h₁ : e₁ <+: e₂) (h₂ : e₂ <+: e₃) {r : α}
    {x : Except (List Err) α} (hx : x = if e₁ ≠ [] then .error e₁ else if e₂ ≠ [] then .error e₂ else
      if e₃ ≠ [] then .error e₃ else .ok r) :
    (e₃ = [] ∧ x = .ok r) ∨ ∃ es, x = .error es ∧ es ≠ [] ∧ es <+: e₃ := by
  by_cases c₁ : e₁ ≠ []
  · exact .inr ⟨e₁, hx.trans (if_pos c₁), c₁, h₁.trans h₂⟩
  by_cases c₂ : e₂ ≠ []
  · exact .inr ⟨e₂, by rw [hx, if_neg c₁, if_pos c₂], c₂, h₂⟩
  by_cases c₃ : e₃ ≠ []
  · exact .inr ⟨e₃, by rw [hx, if_neg c₁, if_neg c₂, if_pos c₃], c₃, List.prefix_rfl⟩
  · exact .inl ⟨Decidable.not_not.mp c₃, by rw [hx, if_neg c₁, if_neg c₂, if_neg c₃]⟩

section
variable (args : Option (List Ty)) (imports : List (Nat × PMap)) (provs : List Prov)
  (vals : List Val) (flds : List Fld) (bnds : List Bnd)

/-- everything a set asks for, in the order `buildProviderMap` asks for it -/
def reqs : List Req := (baseItems args imports provs vals flds).map .item ++ bnds.map .bnd

theorem s6of_eq : s6of args imports provs vals flds bnds = run {} (reqs args imports provs vals flds bnds) := by
  rw [s6of, s5of, bL_eq_run, insL_eq_run, ← run_append]; rfl

theorem reqs_keys : (reqs args imports provs vals flds bnds).map Req.key =
    allSources args imports provs vals flds bnds := by
  rw [reqs, allSources, List.map_append, List.map_map, List.map_map, ← keys_baseItems]
  rfl

theorem s6_wf : WF (s6of args imports provs vals flds bnds) := s6of_eq .. ▸ run_wf wf_empty _

theorem s5_wf : WF (s5of args imports provs vals flds) := s6_wf args imports provs vals flds []

theorem s6_inv : Inv (s6of args imports provs vals flds bnds) := (s6_wf ..).inv

theorem bpm_cases :
    ((s6of args imports provs vals flds bnds).errs = [] ∧
      buildProviderMap args imports provs vals flds bnds =
        .ok ((s6of args imports provs vals flds bnds).pm, (s6of args imports provs vals flds bnds).sm)) ∨
    ∃ es, buildProviderMap args imports provs vals flds bnds = .error es ∧ es ≠ [] ∧
      es <+: (s6of args imports provs vals flds bnds).errs := by
  refine checks_cases ?_ ?_ (bpm_eq ..)
  · rw [s5of, baseItems, insL_append, insL_eq_run _ (items2 ..)]
    exact (run_mono ..).2.2
  · rw [s6of, bL_eq_run]
    exact (run_mono ..).2.2

variable {args imports provs vals flds bnds}

theorem mem_reqs_iff {r : Req} : r ∈ reqs args imports provs vals flds bnds ↔
    (∃ x ∈ baseItems args imports provs vals flds, r = .item x) ∨ ∃ b ∈ bnds, r = .bnd b := by
  simp only [reqs, List.mem_append, List.mem_map, eq_comm]

theorem bpm_ok {pm : PMap} {sm : SMap}
    (h : buildProviderMap args imports provs vals flds bnds = .ok (pm, sm)) :
    (s6of args imports provs vals flds bnds).errs = [] ∧
      (s6of args imports provs vals flds bnds).pm = pm ∧ (s6of args imports provs vals flds bnds).sm = sm := by
  rcases bpm_cases args imports provs vals flds bnds with ⟨h6, e⟩ | ⟨es, e, -⟩ <;> rw [e] at h
  · cases h; exact ⟨h6, rfl, rfl⟩
  · cases h

theorem s6_keys (h : (s6of args imports provs vals flds bnds).errs = []) :
    keys (s6of args imports provs vals flds bnds).sm =
      (allSources args imports provs vals flds bnds).reverse := by
  rw [s6of_eq] at h ⊢
  rw [run_clean_keys wf_empty h, reqs_keys]; exact List.append_nil _

variable (args imports provs vals flds bnds)

theorem bpm_never_picks {pm : PMap} {sm : SMap}
    (h : buildProviderMap args imports provs vals flds bnds = .ok (pm, sm)) :
    (allSources args imports provs vals flds bnds).Nodup :=
  (List.reverse_perm _).nodup_iff.mp (s6_keys (bpm_ok h).1 ▸ (s6_wf ..).nodup)

theorem bpm_dup_rejected (h : ¬ (allSources args imports provs vals flds bnds).Nodup) :
    ∃ es, buildProviderMap args imports provs vals flds bnds = .error es ∧ es ≠ [] := by
  rcases bpm_cases args imports provs vals flds bnds with ⟨-, e⟩ | ⟨es, e, hne, -⟩
  · exact absurd (bpm_never_picks _ _ _ _ _ _ e) h
  · exact ⟨es, e, hne⟩

theorem s6_multi {t : Ty} (h : Err.multi t ∈ (s6of args imports provs vals flds bnds).errs) :
    2 ≤ (allSources args imports provs vals flds bnds).count t := by
  rw [s6of_eq] at h
  simpa [reqs_keys] using run_multi h

theorem bpm_multi_named {es : List Err} {t : Ty}
    (h : buildProviderMap args imports provs vals flds bnds = .error es) (hm : Err.multi t ∈ es) :
    2 ≤ (allSources args imports provs vals flds bnds).count t := by
  rcases bpm_cases args imports provs vals flds bnds with ⟨-, e⟩ | ⟨es', e, -, hp⟩ <;> rw [e] at h <;> cases h
  exact s6_multi _ _ _ _ _ _ (hp.subset hm)

theorem s6_all_multi (hp : ∀ i (h : i < bnds.length),
      bnds[i].provided ∈ allSources args imports provs vals flds (bnds.take i)) :
    ∀ e ∈ (s6of args imports provs vals flds bnds).errs, ∃ t, e = Err.multi t := by
  intro e he
  rw [s6of, bL_eq_run, s5of, insL_eq_run] at he
  refine (run_all_multi (run_wf wf_empty _) ?_ e he).elim (fun he => ?_) id
  · intro i hi b hb
    simp only [List.getElem_map, Req.bnd.injEq] at hb
    refine (List.mem_append.mp (hp i (by simpa using hi))).imp (fun h => ?_) fun h => ?_ <;> subst hb
    · obtain ⟨x, hx, e⟩ := List.mem_map.mp (keys_baseItems .. ▸ h)
      exact e ▸ run_item_key (List.mem_map_of_mem hx)
    · rw [← List.map_take, List.map_map]; exact h
  · exact (run_all_multi wf_empty (by simp) e he).resolve_left nofun

/-- If every binding finds its concrete type among what was asked for before it, a rejection reports
    some `multi`. -/
theorem bpm_error_multi (hp : ∀ i (h : i < bnds.length),
      bnds[i].provided ∈ allSources args imports provs vals flds (bnds.take i)) {es : List Err}
    (h : buildProviderMap args imports provs vals flds bnds = .error es) : ∃ t, Err.multi t ∈ es := by
  rcases bpm_cases args imports provs vals flds bnds with ⟨-, e⟩ | ⟨es', e, hne, hpre⟩ <;> rw [e] at h <;> cases h
  obtain ⟨e', he'⟩ := List.exists_mem_of_ne_nil es hne
  obtain ⟨t, rfl⟩ := s6_all_multi _ _ _ _ _ _ hp e' (hpre.subset he')
  exact ⟨t, he'⟩

theorem bpm_dup_named (h : ¬ (allSources args imports provs vals flds bnds).Nodup)
    (hp : ∀ b ∈ bnds, b.provided ∈ baseSources args imports provs vals flds) :
    ∃ es t, buildProviderMap args imports provs vals flds bnds = .error es ∧ Err.multi t ∈ es :=
  let ⟨es, he, _⟩ := bpm_dup_rejected _ _ _ _ _ _ h
  let ⟨t, ht⟩ := bpm_error_multi _ _ _ _ _ _
    (fun _ hi => List.mem_append_left _ (hp _ (List.getElem_mem hi))) he
  ⟨es, t, he, ht⟩

end

section
variable {args : Option (List Ty)} {imports : List (Nat × PMap)} {provs : List Prov}
  {vals : List Val} {flds : List Fld} {bnds : List Bnd} {pm : PMap} {sm : SMap}

theorem ok_keys (h : buildProviderMap args imports provs vals flds bnds = .ok (pm, sm)) :
    keys pm = (allSources args imports provs vals flds bnds).reverse ∧
    keys sm = (allSources args imports provs vals flds bnds).reverse := by
  obtain ⟨h6, rfl, rfl⟩ := bpm_ok h
  exact ⟨(s6_inv ..).trans (s6_keys h6), s6_keys h6⟩

theorem ok_req (h : buildProviderMap args imports provs vals flds bnds = .ok (pm, sm))
    {r : Req} (hr : r ∈ reqs args imports provs vals flds bnds) :
    ∃ pt, r.pay pm = some pt ∧ look r.key pm = some pt ∧ look r.key sm = some r.src := by
  obtain ⟨h6, rfl, rfl⟩ := bpm_ok h
  rw [s6of_eq] at h6 ⊢
  obtain ⟨pt, h1, h2⟩ := (run_clean wf_empty h6).2 r hr
  exact ⟨pt, h1, h2, run_clean_src wf_empty h6 hr⟩

theorem ok_base_item (h : buildProviderMap args imports provs vals flds bnds = .ok (pm, sm))
    {x : Item} (hx : x ∈ baseItems args imports provs vals flds) :
    look x.1 pm = some x.2.1 ∧ look x.1 sm = some x.2.2 := by
  obtain ⟨_, e, h⟩ := ok_req h (mem_reqs_iff.mpr (.inl ⟨x, hx, rfl⟩))
  cases e
  exact h

theorem ok_bnd (h : buildProviderMap args imports provs vals flds bnds = .ok (pm, sm))
    {b : Bnd} (hb : b ∈ bnds) :
    ∃ c, look b.provided pm = some c ∧ look b.iface pm = some c ∧ look b.iface sm = some (.bnd b.id) :=
  ok_req h (mem_reqs_iff.mpr (.inr ⟨b, hb, rfl⟩))

theorem ok_look_sm (h : buildProviderMap args imports provs vals flds bnds = .ok (pm, sm)) (t : Ty)
    (src : SrcId) :
    look t sm = some src ↔ (∃ v, (t, v, src) ∈ baseItems args imports provs vals flds) ∨
      ∃ b ∈ bnds, b.iface = t ∧ src = .bnd b.id := by
  constructor
  · intro hs
    -- a key of an accepted map is the key of some request, and `ok_req` says what that request stored
    obtain ⟨r, hr, rfl⟩ := List.mem_map.mp
      (reqs_keys .. ▸ List.mem_reverse.mp ((ok_keys h).2 ▸ mem_keys_of_look hs))
    obtain ⟨_, -, -, h3⟩ := ok_req h hr
    cases h3.symm.trans hs
    rcases mem_reqs_iff.mp hr with ⟨⟨_, v, _⟩, hx, rfl⟩ | ⟨b, hb, rfl⟩
    · exact .inl ⟨v, hx⟩
    · exact .inr ⟨b, hb, rfl, rfl⟩
  · rintro (⟨v, hx⟩ | ⟨b, hb, rfl, rfl⟩)
    · exact (ok_base_item h hx).2
    · exact (ok_bnd h hb).elim fun _ hc => hc.2.2

theorem ok_look_pm (h : buildProviderMap args imports provs vals flds bnds = .ok (pm, sm)) (t : Ty)
    (v : PT) :
    look t pm = some v ↔ (∃ src, (t, v, src) ∈ baseItems args imports provs vals flds) ∨
      ∃ b ∈ bnds, b.iface = t ∧ look b.provided pm = some v := by
  constructor
  · intro hv
    obtain ⟨r, hr, rfl⟩ := List.mem_map.mp
      (reqs_keys .. ▸ List.mem_reverse.mp ((ok_keys h).1 ▸ mem_keys_of_look hv))
    obtain ⟨_, h1, h2, -⟩ := ok_req h hr
    have hp : r.pay pm = some v := h1.trans (h2.symm.trans hv)
    rcases mem_reqs_iff.mp hr with ⟨⟨_, _, src⟩, hx, rfl⟩ | ⟨b, hb, rfl⟩
    · cases hp; exact .inl ⟨src, hx⟩
    · exact .inr ⟨b, hb, rfl, hp⟩
  · rintro (⟨src, hx⟩ | ⟨b, hb, rfl, hv⟩)
    · exact (ok_base_item h hx).1
    · obtain ⟨c, h1, h2, -⟩ := ok_bnd h hb
      exact h2.trans (h1.symm.trans hv)

theorem ok_mem_vals (h : buildProviderMap args imports provs vals flds bnds = .ok (pm, sm))
    {kv : Ty × PT} (hkv : kv ∈ pm) : ∃ x ∈ baseItems args imports provs vals flds, x.2.1 = kv.2 := by
  obtain ⟨-, rfl, -⟩ := bpm_ok h
  rw [s6of_eq] at hkv
  obtain ⟨_, h, _⟩ | ⟨x, hx, e⟩ := run_vals kv hkv
  · cases h
  · exact ⟨x, by simpa [mem_reqs_iff] using hx, e⟩

theorem bpm_ok_lookup (h : buildProviderMap args imports provs vals flds bnds = .ok (pm, sm)) :
    LookupSpec args imports provs vals flds bnds pm sm := by
  obtain ⟨hk1, hk2⟩ := ok_keys h
  have hnd : (allSources args imports provs vals flds bnds).reverse.Nodup :=
    (List.reverse_perm _).nodup_iff.mpr (bpm_never_picks _ _ _ _ _ _ h)
  exact
    { pm_keys := fun t => look_isSome_iff.trans (show t ∈ keys pm ↔ _ by rw [hk1, List.mem_reverse])
      sm_keys := fun t => look_isSome_iff.trans (show t ∈ keys sm ↔ _ by rw [hk2, List.mem_reverse])
      pm_nodup := (hk1 ▸ hnd : (keys pm).Nodup)
      sm_nodup := (hk2 ▸ hnd : (keys sm).Nodup)
      arg := fun i t hi => ok_base_item h (mem_baseItems_iff.mpr (.inl ⟨i, t, hi, rfl⟩))
      imp := fun ip hip kv hkv => ok_base_item h (mem_baseItems_iff.mpr (.inr (.inl ⟨ip, hip, kv, hkv, rfl⟩)))
      prov := fun p hp t ht =>
        ok_base_item h (mem_baseItems_iff.mpr (.inr (.inr (.inl ⟨p, hp, t, ht, rfl⟩))))
      val := fun v hv => ok_base_item h (mem_baseItems_iff.mpr (.inr (.inr (.inr (.inl ⟨v, hv, rfl⟩)))))
      fld := fun f hf t ht =>
        ok_base_item h (mem_baseItems_iff.mpr (.inr (.inr (.inr (.inr ⟨f, hf, t, ht, rfl⟩)))))
      bnd := fun b hb => ok_bnd h hb }

theorem sm_src_spec (h : buildProviderMap args imports provs vals flds bnds = .ok (pm, sm))
    {t : Ty} {src : SrcId} (hl : look t sm = some src) :
    match src with
    | .arg i => (args.getD [])[i]? = some t
    | .imp j => ∃ ip ∈ imports, ip.1 = j ∧ ∃ kv ∈ ip.2, kv.1 = t
    | .prov i => ∃ p ∈ provs, p.id = i ∧ t ∈ p.outs
    | .val i => ∃ v ∈ vals, v.id = i ∧ v.out = t
    | .fld i => ∃ f ∈ flds, f.id = i ∧ t ∈ f.outs
    | .bnd i => ∃ b ∈ bnds, b.id = i ∧ b.iface = t := by
  rcases (ok_look_sm h t src).mp hl with ⟨v, hx⟩ | ⟨b, hb, rfl, rfl⟩
  · rcases mem_baseItems_iff.mp hx with ⟨i, t', ht, e⟩ | ⟨ip, hip, kv, hkv, e⟩ |
      ⟨p, hp, t', ht, e⟩ | ⟨v', hv, e⟩ | ⟨f, hf, t', ht, e⟩ <;> cases e
    · exact ht
    · exact ⟨ip, hip, rfl, kv, hkv, rfl⟩
    · exact ⟨p, hp, rfl, ht⟩
    · exact ⟨v', hv, rfl, rfl⟩
    · exact ⟨f, hf, rfl, ht⟩
  · exact ⟨b, hb, rfl, rfl⟩

theorem bind_needs_concrete {b : Bnd} (hb : b ∈ bnds)
    (hp : b.provided ∉ allSources args imports provs vals flds bnds) :
    ∃ es, buildProviderMap args imports provs vals flds bnds = .error es ∧ es ≠ [] := by
  rcases bpm_cases args imports provs vals flds bnds with ⟨-, e⟩ | ⟨es, e, hne, -⟩
  · obtain ⟨c, hc, -⟩ := ok_bnd e hb
    exact absurd (List.mem_reverse.mp ((ok_keys e).1 ▸ mem_keys_of_look hc)) hp
  · exact ⟨es, e, hne⟩

end

end WireP.PMapProofs
