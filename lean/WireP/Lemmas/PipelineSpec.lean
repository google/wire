import WireP.Lemmas.PipelineFront
import WireP.Lemmas.SolveLive
/-! What an accepted `planLast` means. -/
namespace WireP.PipelineProofs
open WireV WireP.Pipeline WireP.C05 WireP.C07 WireP.Solve

/-- A decidable over-approximation of reachability, for concrete instances. -/
theorem reach_subset {pm : PMap} {out : Ty} (S : List Ty) (hout : out ∈ S)
    (hclosed : ∀ kv ∈ pm, kv.1 ∈ S → (kv.2.t ≠ kv.1 → kv.2.t ∈ S) ∧
      (kv.2.t = kv.1 → ∀ u ∈ depsOf kv.2.src, u ∈ S)) :
    ∀ u, Reach pm out u → u ∈ S := by
  intro u hr
  induction hr with
  | refl _ => exact hout
  | step hab _ ih =>
    apply ih
    obtain ⟨pt, hl, hd⟩ := hab
    have := hclosed _ (look_mem hl) hout
    rcases hd with ⟨h1, rfl⟩ | ⟨h1, h2⟩
    · exact this.1 h1
    · exact this.2 h1 _ h2

theorem planSpec_of_solve {pm : PMap} {sm : SMap} {d : SetDef} {impIds : List Nat} {given : List Ty}
    {out : Ty} {calls : List Call} (hH : H pm given) (hga : GivenArgs pm given)
    (h : solve pm sm d impIds given out = .ok calls) :
    PlanSpec d impIds pm sm given out calls := by
  obtain ⟨-, he, hu, rfl⟩ := solve_ok_iff.mp h
  have hl := hga.leaf
  have hcc := hH.concClosed
  have hnd := hH.givenNodup
  exact
    { calls_eq := rfl
      call_sound := solve_call_sound hcc hnd hl.self
      outs_nodup := (solve_outs_nodup hcc hnd).1
      outs_not_given := (solve_outs_nodup hcc hnd).2
      only_needed := solve_only_needed hcc hnd
      result := solve_result_partial hH hl.self he
      result_last := fun hc => solve_result_last hH hc he
      no_missing := (solve_missing_iff_partial hH hl).mp he
      all_used := fun src e hd =>
        used_sound hcc hnd src (((verifyArgsUsed_nil_iff_direct ..).mp hu) src e hd)
      bind_no_call := fun k pt hlp hb => Solve.bind_no_call hcc hnd hlp hb
      bind_value := fun k pt hlp hb hr => bind_value_partial hH hl he hlp hb hr }

/-- The coverage hypothesis is on the last map only. -/
theorem planLast_ok_spec' {order : List Ty} {ds : List SetDef} {d : SetDef} {out : Ty}
    {calls : List Call} (hbl : BuildLast ds) (hd : ds.getLast? = some d)
    (horder : ∀ id pm sm, (procSets order ds).getLast? = some (id, SetRes.ok pm sm) →
      ∀ k, (look k pm).isSome → k ∈ order)
    (h : planLast order ds out = .ok calls) :
    ∃ pm sm, (procSets order ds).getLast? = some (d.id, SetRes.ok pm sm) ∧
      PlanSpec d (impIdsOf (procSets order ds) d) pm sm (d.args.getD []) out calls := by
  obtain ⟨pm, sm, hl, hs⟩ := planLast_ok_inv hd h
  obtain ⟨hH, hga, -⟩ := planLast_hyps hbl hd hl (horder _ _ _ hl)
  exact ⟨pm, sm, hl, planSpec_of_solve hH hga hs⟩

/-- `planLast_ok_spec'` under `OrderCovers`, with where the accepted map comes from. -/
theorem planLast_ok_spec {order : List Ty} {ds : List SetDef} {d : SetDef} {out : Ty}
    {calls : List Call} (hbl : BuildLast ds) (hd : ds.getLast? = some d)
    (horder : OrderCovers order ds) (h : planLast order ds out = .ok calls) :
    ∃ pm sm impMaps, (procSets order ds).getLast? = some (d.id, SetRes.ok pm sm) ∧
      importsOf (procSets order ds.dropLast) d = .ok impMaps ∧
      buildProviderMap d.args impMaps d.provs d.vals d.flds d.bnds = .ok (pm, sm) ∧
      ¬ Cyclic (succOf pm) ∧
      PlanSpec d (impIdsOf (procSets order ds) d) pm sm (d.args.getD []) out calls := by
  obtain ⟨pm, sm, hl, hs⟩ := planLast_ok_spec' hbl hd (fun _ _ _ hl => last_covered horder hl) h
  obtain ⟨m, hm, hb, hc⟩ := procSet_eq_ok_iff.mp (procSets_last_eq hd hl).2
  exact ⟨pm, sm, m, hl, hm, hb,
    (AcyclicProofs.checkAcyclic_spec order pm (last_covered horder hl)).mp hc, hs⟩

end WireP.PipelineProofs
