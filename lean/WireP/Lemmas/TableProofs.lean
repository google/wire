import WireV.Tables
/-! # The regenerated string tables: decoding literals once

The theorems over `WireV.Generated` are closed by evaluation, the dear ones in the kernel alone
(`decide +kernel`; plain `decide` evaluates a second time in the elaborator), and `String` operations are what makes that
dear: a string is a UTF-8 byte array, and the kernel decodes a literal again for every `toList` and
every `==`.  A literal does unify with `String.ofList` of its characters at no cost, though:
`toList_lit` and `Lits` use that to turn a filter on `toList` into a filter on character lists, for
the one sweep that tests for substrings, `WireP.C20.no_ast_shape_assertions`. -/
namespace WireP.Tables
open WireV

theorem toList_lit {s : String} {c : List Char} (h : s = String.ofList c) : s.toList = c :=
  h ▸ String.toList_ofList

/-- `ss` are the strings with the character lists `cs`; for a table of literals
    `repeat first | exact .nil | apply Lits.cons rfl` proves `Lits table ?cs` and finds `cs` -/
inductive Lits : List String → List (List Char) → Prop
  | nil : Lits [] []
  | cons {s : String} {c : List Char} {ss : List String} {cs : List (List Char)} :
      s = String.ofList c → Lits ss cs → Lits (s :: ss) (c :: cs)

theorem Lits.filter_toList {ss : List String} {cs : List (List Char)} (h : Lits ss cs)
    (p : List Char → Bool) : ss.filter (fun s => p s.toList) = (cs.filter p).map String.ofList := by
  induction h with
  | nil => rfl
  | cons hs _ ih =>
    subst hs
    rw [List.filter_cons, List.filter_cons, String.toList_ofList, ih]
    split <;> rfl

theorem copyUnhandled_nil : copyUnhandled = [] := by decide +kernel

theorem copyMissing_nil : copyMissing = [] := by decide +kernel

end WireP.Tables
