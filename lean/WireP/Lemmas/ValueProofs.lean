import WireV.Value
/-! For C13: the expression whitelist of `processValue`.  `VExpr` is nested through `List VExpr`, so each theorem has an
`_all` twin and recurses as `whitelistOk` / `whitelistAll` do. -/
namespace WireP.ValueProofs
open WireV

mutual
theorem whitelist_sound (w : WL) (e : VExpr) (hr : w.rule = "isType") (ha : w.arrowRejected = true)
    (h : whitelistOk w e = true) : evaluatesCall e = false := by
  cases e with
  | node kind children =>
    simp only [whitelistOk, Bool.and_eq_true] at h
    simpa only [evaluatesCall] using whitelist_sound_all w hr ha children h.2
  | unary isArrow x =>
    simp only [whitelistOk, ha, Bool.true_and, Bool.and_eq_true, Bool.not_eq_true'] at h
    simp only [evaluatesCall, h.1, Bool.false_or]
    exact whitelist_sound w x hr ha h.2
  | call fc fn args =>
    simp only [whitelistOk, callAccepted, hr, if_true, Bool.and_eq_true, beq_iff_eq] at h
    simp only [evaluatesCall, h.1.1, bne_self_eq_false, Bool.false_or, Bool.or_eq_false_iff]
    exact ⟨whitelist_sound w fn hr ha h.1.2, whitelist_sound_all w hr ha args h.2⟩
theorem whitelist_sound_all (w : WL) (hr : w.rule = "isType") (ha : w.arrowRejected = true) :
    ∀ es : List VExpr, whitelistAll w es = true → evaluatesCallAny es = false
  | [] => fun _ => rfl
  | e :: es => by
    intro h
    simp only [whitelistAll, Bool.and_eq_true] at h
    simp only [evaluatesCallAny, Bool.or_eq_false_iff]
    exact ⟨whitelist_sound w e hr ha h.1, whitelist_sound_all w hr ha es h.2⟩
end

mutual
theorem whitelist_no_funclit (w : WL) (e : VExpr) (hd : w.defaultRejects = true) (hg : "FuncLit" ∉ w.good)
    (h : whitelistOk w e = true) : hasFuncLit e = false := by
  cases e with
  | node kind children =>
    simp only [whitelistOk, hd, Bool.not_true, Bool.or_false, Bool.and_eq_true, List.contains_eq_mem,
      decide_eq_true_eq] at h
    have hk : (kind == "FuncLit") = false := beq_eq_false_iff_ne.mpr fun hk => hg (hk ▸ h.1)
    simpa only [hasFuncLit, hk, Bool.false_or] using whitelist_no_funclit_all w hd hg children h.2
  | unary isArrow x =>
    simp only [whitelistOk, Bool.and_eq_true] at h
    simpa only [hasFuncLit] using whitelist_no_funclit w x hd hg h.2
  | call fc fn args =>
    simp only [whitelistOk, Bool.and_eq_true] at h
    simp only [hasFuncLit, Bool.or_eq_false_iff]
    exact ⟨whitelist_no_funclit w fn hd hg h.1.2, whitelist_no_funclit_all w hd hg args h.2⟩
theorem whitelist_no_funclit_all (w : WL) (hd : w.defaultRejects = true) (hg : "FuncLit" ∉ w.good) :
    ∀ es : List VExpr, whitelistAll w es = true → hasFuncLitAny es = false
  | [] => fun _ => rfl
  | e :: es => by
    intro h
    simp only [whitelistAll, Bool.and_eq_true] at h
    simp only [hasFuncLitAny, Bool.or_eq_false_iff]
    exact ⟨whitelist_no_funclit w e hd hg h.1, whitelist_no_funclit_all w hd hg es h.2⟩
end

end WireP.ValueProofs
