import WireP.Lemmas.PathProofs
import WireP.Lemmas.ListAux
/-! For C01: Wire's form of Go's rule for internal packages (`WireV.importableFromC`), in terms of path elements.

An element is `/internal` followed by the end of the path or by `/`.  The leading `/` is demanded, so a path that is
`internal` or begins with `internal/` has no `internal` element: Wire's `importableFrom` searches for `/internal` and
`/internal/` and does not treat that case specially (cmd/go does).  `internalAt` returns what the Go code calls `i`,
the index of the letter `i` of `internal`, one past the `/`; hence `1 ≤ i` and `take (i - 1)` in the statements. -/
namespace WireP.ImportableProofs
open WireV
open WireP.PathProofs

-- `ie` is `"/internal"`, `ies` is `"/internal/"`
theorem ie_eq : "/internal".toList = ['/', 'i', 'n', 't', 'e', 'r', 'n', 'a', 'l'] := String.toList_ofList

theorem ies_eq : "/internal/".toList = ['/', 'i', 'n', 't', 'e', 'r', 'n', 'a', 'l', '/'] := String.toList_ofList

theorem ies_split : "/internal/".toList = "/internal".toList ++ ['/'] := by rw [ies_eq, ie_eq]; rfl

theorem ie_length : "/internal".toList.length = 9 := by rw [ie_eq]; rfl

theorem internal_length : "internal".length = 8 := String.length_ofList

theorem ies_ne_nil : "/internal/".toList ≠ [] := by rw [ies_eq]; exact List.cons_ne_nil _ _

theorem isSuffixC_iff (s h : List Char) : isSuffixC s h = true ↔ ∃ t, h = t ++ s := by
  rw [isSuffixC, isPrefixC_eq, List.isPrefixOf_iff_prefix, List.reverse_prefix]
  exact exists_congr fun _ => eq_comm

theorem isSuffixC_append (t s : List Char) : isSuffixC s (t ++ s) = true :=
  (isSuffixC_iff _ _).mpr ⟨t, rfl⟩

def InternalElemAt (path : List Char) (k : Nat) : Prop :=
  ∃ suf, path.drop k = "/internal".toList ++ suf ∧ (suf = [] ∨ suf.head? = some '/')

theorem internalElemAt_iff (path : List Char) (k : Nat) :
    InternalElemAt path k ↔
      path.drop k = "/internal".toList ∨ isPrefixC "/internal/".toList (path.drop k) = true := by
  rw [isPrefixC_iff]
  constructor
  · rintro ⟨suf, hd, hs | hs⟩
    · subst hs; left; simpa using hd
    · right
      cases suf with
      | nil => cases hs
      | cons c s =>
        simp only [List.head?_cons, Option.some.injEq] at hs
        subst hs
        exact ⟨s, by rw [hd, ies_split, List.append_assoc]; rfl⟩
  · rintro (hd | ⟨t, hd⟩)
    · exact ⟨[], by simpa using hd, Or.inl rfl⟩
    · exact ⟨'/' :: t, by rw [hd, ies_split, List.append_assoc]; rfl, Or.inr rfl⟩

theorem InternalElemAt.add_le {path : List Char} {k : Nat} (h : InternalElemAt path k) :
    k + 9 ≤ path.length := by
  obtain ⟨suf, hd, _⟩ := h
  have := congrArg List.length hd
  simp only [List.length_drop, List.length_append, ie_length] at this
  omega

theorem internalElemAt_iff_split (path : List Char) (k : Nat) :
    InternalElemAt path k ↔
      ∃ pre suf, pre.length = k ∧ path = pre ++ "/internal".toList ++ suf ∧
        (suf = [] ∨ suf.head? = some '/') := by
  constructor
  · rintro ⟨suf, hd, hs⟩
    have hk := InternalElemAt.add_le ⟨suf, hd, hs⟩
    refine ⟨path.take k, suf, ?_, ?_, hs⟩
    · rw [List.length_take]; omega
    · rw [List.append_assoc, ← hd, List.take_append_drop]
  · rintro ⟨pre, suf, rfl, rfl, hs⟩
    refine ⟨suf, ?_, hs⟩
    rw [List.append_assoc, List.drop_left]

/-- the two tests of `internalAt` (a final `/internal`, an `/internal/` anywhere) see every element -/
theorem InternalElemAt.found {path : List Char} {k : Nat} (h : InternalElemAt path k) :
    isSuffixC "/internal".toList path = true ∨ isPrefixC "/internal/".toList (path.drop k) = true :=
  ((internalElemAt_iff path k).mp h).imp_left fun hd =>
    (isSuffixC_iff _ _).mpr ⟨path.take k, by rw [← hd, List.take_append_drop]⟩

theorem internalAt_some {path : List Char} {i : Nat} (h : internalAt path = some i) :
    1 ≤ i ∧ InternalElemAt path (i - 1) ∧ ∀ j, i - 1 < j → ¬ InternalElemAt path j := by
  unfold internalAt at h
  split at h
  · -- a final `/internal` is the last element: any element needs 9 characters
    rename_i hsuf
    obtain ⟨t, rfl⟩ := (isSuffixC_iff _ _).mp hsuf
    simp only [Option.some.injEq, List.length_append, ie_length, internal_length] at h
    subst h
    have e : t.length + 9 - 8 - 1 = t.length := by omega
    refine ⟨by omega, ?_, ?_⟩
    · rw [e]
      exact ⟨[], by simp, Or.inl rfl⟩
    · intro j hj hel
      have := hel.add_le
      simp only [List.length_append, ie_length] at this
      omega
  · -- otherwise the last `/internal/`
    rename_i hsuf
    split at h
    · rename_i k hk
      simp only [Option.some.injEq] at h
      subst h
      obtain ⟨h1, h2⟩ := (lastIndex_some_iff ies_ne_nil).mp hk
      refine ⟨by omega, (internalElemAt_iff _ _).mpr (.inr (by simpa using h1)), fun j hj hel => ?_⟩
      exact (InternalElemAt.found hel).elim hsuf (by rw [h2 j (by omega)]; exact Bool.false_ne_true)
    · cases h

theorem internalAt_none_iff_elem (path : List Char) :
    internalAt path = none ↔ ∀ k, ¬ InternalElemAt path k := by
  constructor
  · intro h k hel
    unfold internalAt at h
    split at h
    · cases h
    · rename_i hsuf
      split at h
      · cases h
      · rename_i hl
        exact (InternalElemAt.found hel).elim hsuf
          (by rw [(lastIndex_none_iff ies_ne_nil path).mp hl k]; exact Bool.false_ne_true)
  · intro h
    cases hi : internalAt path with
    | none => rfl
    | some i => exact absurd (internalAt_some hi).2.1 (h _)

theorem internalAt_some_iff {path : List Char} {i : Nat} :
    internalAt path = some i ↔
      1 ≤ i ∧ InternalElemAt path (i - 1) ∧ ∀ j, i - 1 < j → ¬ InternalElemAt path j := by
  refine ⟨internalAt_some, ?_⟩
  rintro ⟨h1, h2, h3⟩
  cases hi : internalAt path with
  | none => exact absurd h2 ((internalAt_none_iff_elem path).mp hi _)
  | some i' =>
    obtain ⟨k1, k2, k3⟩ := internalAt_some hi
    congr 1
    rcases Nat.lt_trichotomy (i' - 1) (i - 1) with hlt | heq | hgt
    · exact absurd h2 (k3 _ hlt)
    · omega
    · exact absurd k2 (h3 _ hgt)

/-- `/internal` does not overlap itself: it has `/` only at its head -/
theorem no_overlap {m : Nat} (h1 : 1 ≤ m) (h2 : m ≤ 8) (rest suf : List Char) :
    ("/internal".toList ++ rest).drop m ≠ "/internal".toList ++ suf := by
  rw [ie_eq]
  exact drop_ne_cons_of_not_mem (w := ['i', 'n', 't', 'e', 'r', 'n', 'a', 'l']) (by decide) h1 h2 rest _

theorem internalAt_shape (parent : List Char) {rest : List Char}
    (hr : rest = [] ∨ rest.head? = some '/') (hlast : internalAt rest = none) :
    internalAt (parent ++ "/internal".toList ++ rest) = some (parent.length + 1) := by
  rw [internalAt_some_iff]
  refine ⟨by omega, ?_, ?_⟩
  · exact (internalElemAt_iff_split _ _).mpr ⟨parent, rest, by omega, rfl, hr⟩
  · intro j hj hel
    have hj' : parent.length < j := by omega
    obtain ⟨suf, hd, hs⟩ := hel
    have e : (parent ++ "/internal".toList ++ rest).drop j =
        ("/internal".toList ++ rest).drop (j - parent.length) := by
      rw [List.append_assoc, List.drop_append, List.drop_eq_nil_of_le (by omega), List.nil_append]
    rw [e] at hd
    -- a later element would start inside this `/internal` (`no_overlap`) or inside `rest` (`hlast`)
    by_cases hm : j - parent.length ≤ 8
    · exact no_overlap (by omega) hm rest suf hd
    · have e2 : ("/internal".toList ++ rest).drop (j - parent.length) =
          rest.drop (j - parent.length - 9) := by
        rw [List.drop_append, List.drop_eq_nil_of_le (by rw [ie_length]; omega), List.nil_append,
          ie_length]
      rw [e2] at hd
      exact (internalAt_none_iff_elem rest).mp hlast _ ⟨suf, hd, hs⟩

theorem importableFromC_congr {p p' f f' : List Char} (hp : unvendorC p = unvendorC p')
    (hf : unvendorC f = unvendorC f') : importableFromC p f = importableFromC p' f' := by
  simp only [importableFromC, hp, hf]

theorem importable_vendored {path frm : List Char} (hp : NoVendorElem path) (hf : NoVendorElem frm)
    (q q' : List Char) :
    importableFromC (q ++ vendorElem ++ path) (q' ++ vendorElem ++ frm) = importableFromC path frm ∧
    importableFromC ("vendor/".toList ++ path) frm = importableFromC path frm ∧
    importableFromC path (q' ++ vendorElem ++ frm) = importableFromC path frm := by
  have hp' := unvendor_canonical hp q
  have hf' := (unvendor_canonical hf q').1.trans (unvendor_id hf).symm
  exact ⟨importableFromC_congr (hp'.1.trans (unvendor_id hp).symm) hf',
    importableFromC_congr (hp'.2.trans (unvendor_id hp).symm) rfl, importableFromC_congr rfl hf'⟩

theorem importable_no_internal_gen {path : List Char} (h : internalAt (unvendorC path) = none)
    (frm : List Char) : importableFromC path frm = true := by
  simp only [importableFromC, h]

theorem importable_some_gen {path frm : List Char} {i : Nat}
    (h : internalAt (unvendorC path) = some i) :
    importableFromC path frm = true ↔
      unvendorC frm = (unvendorC path).take (i - 1) ∨
      ∃ x, unvendorC frm = (unvendorC path).take (i - 1) ++ '/' :: x := by
  simp only [importableFromC, h, Bool.or_eq_true, beq_iff_eq, isPrefixC_iff, List.append_assoc,
    List.cons_append, List.nil_append]

theorem importable_no_internal {path : List Char} (hp : NoVendorElem path)
    (h : internalAt path = none) (frm : List Char) : importableFromC path frm = true :=
  importable_no_internal_gen (by rwa [unvendor_id hp]) frm

theorem importable_iff_at {path frm : List Char} {i : Nat} (hp : NoVendorElem path)
    (hf : NoVendorElem frm) (hi : internalAt path = some i) :
    importableFromC path frm = true ↔
      frm = path.take (i - 1) ∨ ∃ x, frm = path.take (i - 1) ++ '/' :: x := by
  rw [importable_some_gen (by rwa [unvendor_id hp]), unvendor_id hp, unvendor_id hf]

theorem importable_iff {parent rest frm : List Char}
    (hp : NoVendorElem (parent ++ "/internal".toList ++ rest)) (hf : NoVendorElem frm)
    (hr : rest = [] ∨ rest.head? = some '/') (hlast : internalAt rest = none) :
    importableFromC (parent ++ "/internal".toList ++ rest) frm = true ↔
      frm = parent ∨ ∃ x, frm = parent ++ '/' :: x := by
  rw [importable_iff_at hp hf (internalAt_shape parent hr hlast), List.append_assoc,
    Nat.add_sub_cancel, List.take_left]

theorem importableFrom_lit {s t : String} {l m : List Char} {b : Bool} (hs : s = String.ofList l)
    (ht : t = String.ofList m) (h : importableFromC l m = b) : importableFrom s t = b := by
  subst hs; subst ht
  rwa [importableFrom, String.toList_ofList, String.toList_ofList]

theorem internalAt_lit {s : String} {l : List Char} {r : Option Nat} (hs : s = String.ofList l)
    (h : internalAt l = r) : internalAt s.toList = r := by
  subst hs; rwa [String.toList_ofList]

end WireP.ImportableProofs
