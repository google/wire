import WireP.Lemmas.SolveDefs
/-! # `solve` and `verifyArgsUsed` unfolded -/

namespace WireP.Pipeline
open WireV

/-- `src` is the identity of a direct item of the set `d` and `e` the diagnostic issued if it is
    unused.  In `WireP.Pipeline` because the pipeline statements name it; in this file because
    `mem_verifyArgsUsed_iff` is stated with it. -/
inductive DirectItem (d : SetDef) (impIds : List Nat) : SrcId → Err → Prop
  | imp (i : Nat) : i ∈ impIds → DirectItem d impIds (.imp i) (.unusedSet i)
  | prov (p : Prov) : p ∈ d.provs → DirectItem d impIds (.prov p.id) (.unusedProv p.id)
  | val (v : Val) : v ∈ d.vals → DirectItem d impIds (.val v.id) (.unusedVal v.id)
  | bnd (b : Bnd) : b ∈ d.bnds → DirectItem d impIds (.bnd b.id) (.unusedBnd b.id)
  | fld (f : Fld) : f ∈ d.flds → DirectItem d impIds (.fld f.id) (.unusedFld f.id)

end WireP.Pipeline

namespace WireP.Solve
open WireV WireP.Pipeline

theorem solve_eq (pm : PMap) (sm : SMap) (d : SetDef) (impIds : List Nat) (given : List Ty)
    (out : Ty) :
    solve pm sm d impIds given out =
      (if (final pm sm given out).stk ≠ [] then SolveOut.stuck
       else if (final pm sm given out).errs ≠ [] then SolveOut.errs (final pm sm given out).errs
       else if verifyArgsUsed d impIds (final pm sm given out).used ≠ [] then
         SolveOut.errs (verifyArgsUsed d impIds (final pm sm given out).used)
       else SolveOut.ok (final pm sm given out).calls) := rfl

theorem solve_errs_of_errs {pm : PMap} {sm : SMap} {d : SetDef} {impIds : List Nat} {given : List Ty}
    {out : Ty} (hs : (final pm sm given out).stk = []) (he : (final pm sm given out).errs ≠ []) :
    solve pm sm d impIds given out = .errs (final pm sm given out).errs := by
  rw [solve_eq, if_neg (by simp [hs]), if_pos he]

theorem solve_errs_of_unused {pm : PMap} {sm : SMap} {d : SetDef} {impIds : List Nat} {given : List Ty}
    {out : Ty} (hs : (final pm sm given out).stk = []) (he : (final pm sm given out).errs = [])
    (hu : verifyArgsUsed d impIds (final pm sm given out).used ≠ []) :
    solve pm sm d impIds given out = .errs (verifyArgsUsed d impIds (final pm sm given out).used) := by
  rw [solve_eq, if_neg (by simp [hs]), if_neg (by simp [he]), if_pos hu]

theorem solve_cases (pm : PMap) (sm : SMap) (d : SetDef) (impIds : List Nat) (given : List Ty)
    (out : Ty) :
    ((final pm sm given out).stk ≠ [] ∧ solve pm sm d impIds given out = .stuck) ∨
    ((final pm sm given out).stk = [] ∧ (final pm sm given out).errs ≠ [] ∧
      solve pm sm d impIds given out = .errs (final pm sm given out).errs) ∨
    ((final pm sm given out).stk = [] ∧ (final pm sm given out).errs = [] ∧
      verifyArgsUsed d impIds (final pm sm given out).used ≠ [] ∧
      solve pm sm d impIds given out =
        .errs (verifyArgsUsed d impIds (final pm sm given out).used)) ∨
    ((final pm sm given out).stk = [] ∧ (final pm sm given out).errs = [] ∧
      verifyArgsUsed d impIds (final pm sm given out).used = [] ∧
      solve pm sm d impIds given out = .ok (final pm sm given out).calls) := by
  by_cases h1 : (final pm sm given out).stk = []
  · by_cases h2 : (final pm sm given out).errs = []
    · by_cases h3 : verifyArgsUsed d impIds (final pm sm given out).used = []
      · refine .inr (.inr (.inr ⟨h1, h2, h3, ?_⟩))
        rw [solve_eq, if_neg (not_not_intro h1), if_neg (not_not_intro h2), if_neg (not_not_intro h3)]
      · exact .inr (.inr (.inl ⟨h1, h2, h3, solve_errs_of_unused h1 h2 h3⟩))
    · exact .inr (.inl ⟨h1, h2, solve_errs_of_errs h1 h2⟩)
  · exact .inl ⟨h1, by rw [solve_eq, if_pos h1]⟩

section
variable {pm : PMap} {sm : SMap} {d : SetDef} {impIds : List Nat} {given : List Ty} {out : Ty}

theorem solve_ok_iff {cs : List Call} :
    solve pm sm d impIds given out = .ok cs ↔
      (final pm sm given out).stk = [] ∧ (final pm sm given out).errs = [] ∧
        verifyArgsUsed d impIds (final pm sm given out).used = [] ∧
        cs = (final pm sm given out).calls := by
  rcases solve_cases pm sm d impIds given out with ⟨h1, e⟩ | ⟨h1, h2, e⟩ | ⟨h1, h2, h3, e⟩ |
    ⟨h1, h2, h3, e⟩ <;> rw [e]
  · exact ⟨nofun, fun h => absurd h.1 h1⟩
  · exact ⟨nofun, fun h => absurd h.2.1 h2⟩
  · exact ⟨nofun, fun h => absurd h.2.2.1 h3⟩
  · exact ⟨fun h => ⟨h1, h2, h3, by cases h; rfl⟩, fun h => h.2.2.2 ▸ rfl⟩

theorem solve_stuck_iff :
    solve pm sm d impIds given out = .stuck ↔ (final pm sm given out).stk ≠ [] := by
  rcases solve_cases pm sm d impIds given out with ⟨h1, e⟩ | ⟨h1, -, e⟩ | ⟨h1, -, -, e⟩ |
    ⟨h1, -, -, e⟩ <;> rw [e]
  · exact ⟨fun _ => h1, fun _ => rfl⟩
  all_goals exact ⟨nofun, fun h => absurd h1 h⟩

end

section
variable (d : SetDef) (impIds : List Nat) (used : List SrcId)

theorem mem_verifyArgsUsed_iff (e : Err) :
    e ∈ verifyArgsUsed d impIds used ↔ ∃ src, DirectItem d impIds src e ∧ src ∉ used := by
  simp only [verifyArgsUsed, List.mem_append, List.mem_map, List.mem_filter, decide_eq_true_eq]
  constructor
  · rintro ((((⟨i, ⟨h, hu⟩, rfl⟩ | ⟨p, ⟨h, hu⟩, rfl⟩) | ⟨v, ⟨h, hu⟩, rfl⟩) | ⟨b, ⟨h, hu⟩, rfl⟩) |
      ⟨f, ⟨h, hu⟩, rfl⟩)
    · exact ⟨_, .imp i h, hu⟩
    · exact ⟨_, .prov p h, hu⟩
    · exact ⟨_, .val v h, hu⟩
    · exact ⟨_, .bnd b h, hu⟩
    · exact ⟨_, .fld f h, hu⟩
  · rintro ⟨src, hd, hu⟩
    cases hd with
    | imp i h => exact .inl (.inl (.inl (.inl ⟨i, ⟨h, hu⟩, rfl⟩)))
    | prov p h => exact .inl (.inl (.inl (.inr ⟨p, ⟨h, hu⟩, rfl⟩)))
    | val v h => exact .inl (.inl (.inr ⟨v, ⟨h, hu⟩, rfl⟩))
    | bnd b h => exact .inl (.inr ⟨b, ⟨h, hu⟩, rfl⟩)
    | fld f h => exact .inr ⟨f, ⟨h, hu⟩, rfl⟩

theorem verifyArgsUsed_nil_iff_direct :
    verifyArgsUsed d impIds used = [] ↔ ∀ src e, DirectItem d impIds src e → src ∈ used := by
  simp only [List.eq_nil_iff_forall_not_mem, mem_verifyArgsUsed_iff, not_exists, not_and,
    Decidable.not_not]
  exact ⟨fun h src e => h e src, fun h e src => h src e⟩

theorem verifyArgsUsed_nil_iff :
    verifyArgsUsed d impIds used = [] ↔
      (∀ i ∈ impIds, SrcId.imp i ∈ used) ∧ (∀ p ∈ d.provs, SrcId.prov p.id ∈ used) ∧
      (∀ v ∈ d.vals, SrcId.val v.id ∈ used) ∧ (∀ b ∈ d.bnds, SrcId.bnd b.id ∈ used) ∧
      (∀ f ∈ d.flds, SrcId.fld f.id ∈ used) := by
  simp only [verifyArgsUsed, List.append_eq_nil_iff, List.map_eq_nil_iff, List.filter_eq_nil_iff,
    decide_eq_true_eq, Decidable.not_not, and_assoc]

end

end WireP.Solve
