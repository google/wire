import WireP.Lemmas.SolveDefs
import WireP.Lemmas.Iter
/-! # What one step of `WireV.svStep` does -/
namespace WireP.Solve
open WireV

/-- what the step does to `used` when it looks at an un-indexed key of the map -/
def usedOf (sm : SMap) (t : Ty) (used : List SrcId) : List SrcId :=
  match look t sm with
  | some src => used ++ [src]
  | none => used

theorem mem_usedOf {sm : SMap} {t : Ty} {used : List SrcId} {src : SrcId} :
    src ∈ usedOf sm t used ↔ src ∈ used ∨ look t sm = some src := by
  unfold usedOf
  cases look t sm with
  | none => simp
  | some x => simp [eq_comm]

def kids (pm : PMap) (t : Ty) : List Ty :=
  match look t pm with
  | none => []
  | some pt => if pt.t ≠ t then [pt.t] else depsOf pt.src

theorem kids_none {pm : PMap} {t : Ty} (h : look t pm = none) : kids pm t = [] := by
  rw [kids, h]

theorem kids_bind {pm : PMap} {t : Ty} {pt : PT} (h : look t pm = some pt) (hb : pt.t ≠ t) :
    kids pm t = [pt.t] := by
  rw [kids, h]; exact if_pos hb

theorem kids_conc {pm : PMap} {t : Ty} {pt : PT} (h : look t pm = some pt) (hb : pt.t = t) :
    kids pm t = depsOf pt.src := by
  rw [kids, h]; exact if_neg (not_not_intro hb)

theorem mem_kids {pm : PMap} {t u : Ty} : u ∈ kids pm t ↔ dep pm t u := by
  unfold dep
  cases h : look t pm with
  | none => simp [kids_none h]
  | some pt => by_cases hb : pt.t = t <;> simp [kids_bind h, kids_conc h, hb]

/-- the four ways in which the type of the top frame `curr` gets its index entry, with the new
    `used`, `errs` and `calls`.  The list manipulations by which `svStep` computes the arguments of
    a call (the abort test, the `filterMap`) are forgotten; kept is what the invariants need: the
    call is the one `mkCall` builds, and each argument is the index entry of the dependency at its
    position. -/
inductive Flavor (pm : PMap) (sm : SMap) (ng : Nat) (s : SvSt) (curr : Frame) :
    Idx → List SrcId → List Err → List Call → Prop
  | noProv : look curr.t pm = none →
      Flavor pm sm ng s curr none s.used (s.errs ++ [Err.noProvider curr.t curr.up]) s.calls
  | bind (pt : PT) (v : Idx) : look curr.t pm = some pt → pt.t ≠ curr.t →
      look pt.t s.index = some v →
      Flavor pm sm ng s curr v (usedOf sm curr.t s.used) s.errs s.calls
  | abort (pt : PT) (a : Ty) : look curr.t pm = some pt → pt.t = curr.t →
      look a s.index = some none →
      Flavor pm sm ng s curr none (usedOf sm curr.t s.used) s.errs s.calls
  -- the `mkCall` clause: `c` is what `mkCall` builds for `pt.src` from `c`'s own output type and
  -- argument list, so every other field of `c` is the one `mkCall` reads off the payload
  | call (pt : PT) (c : Call) : look curr.t pm = some pt → pt.t = curr.t →
      mkCall c.out pt.src c.args = some c → c.out = curr.t →
      c.args.length = (depsOf pt.src).length →
      (∀ (j : Nat) a d, c.args[j]? = some a → (depsOf pt.src)[j]? = some d →
        look d s.index = some (some a)) →
      Flavor pm sm ng s curr (some (ng + s.calls.length)) (usedOf sm curr.t s.used) s.errs
        (s.calls ++ [c])

/-- `svStep` as a relation (`svStep_spec`): the branches that return a state, grouped into four
    constructors; `push` covers both pushing branches, `add` the four of `Flavor`.  The branch
    `mkCall … = none` does not occur (`mkCall_isSome`). -/
inductive Step (pm : PMap) (sm : SMap) (ng : Nat) (s : SvSt) : SvSt → Prop
  | pop (curr : Frame) (rest : List Frame) (i : Idx) :
      s.stk = curr :: rest → look curr.t s.index = some i →
      Step pm sm ng s { s with stk := rest }
  | argPop (curr : Frame) (rest : List Frame) (pt : PT) (i : Nat) :
      s.stk = curr :: rest → look curr.t s.index = none → look curr.t pm = some pt →
      pt.t = curr.t → pt.src = .arg i →
      Step pm sm ng s { s with used := usedOf sm curr.t s.used, stk := rest }
  | push (curr : Frame) (rest : List Frame) :
      s.stk = curr :: rest → look curr.t s.index = none →
      missingOf s.index (kids pm curr.t) ≠ [] →
      Step pm sm ng s { s with used := usedOf sm curr.t s.used,
                               stk := (missingOf s.index (kids pm curr.t)).map
                                        (fun a => ⟨a, curr.t :: curr.up⟩) ++ curr :: rest }
  | add (curr : Frame) (rest : List Frame) (v : Idx) (used' : List SrcId) (errs' : List Err)
      (calls' : List Call) :
      s.stk = curr :: rest → look curr.t s.index = none →
      missingOf s.index (kids pm curr.t) = [] → Flavor pm sm ng s curr v used' errs' calls' →
      Step pm sm ng s { s with used := used', stk := rest, index := (curr.t, v) :: s.index,
                               errs := errs', calls := calls' }

theorem Flavor.mono {pm : PMap} {sm : SMap} {ng : Nat} {s : SvSt} {curr : Frame} {v : Idx}
    {used' : List SrcId} {errs' : List Err} {calls' : List Call}
    (h : Flavor pm sm ng s curr v used' errs' calls') :
    (∃ l, errs' = s.errs ++ l) ∧ (∃ l, calls' = s.calls ++ l) ∧ ∀ src ∈ s.used, src ∈ used' := by
  cases h with
  | noProv => exact ⟨⟨_, rfl⟩, ⟨[], by simp⟩, fun _ h => h⟩
  | call => exact ⟨⟨[], by simp⟩, ⟨_, rfl⟩, fun _ h => mem_usedOf.mpr (.inl h)⟩
  | _ => exact ⟨⟨[], by simp⟩, ⟨[], by simp⟩, fun _ h => mem_usedOf.mpr (.inl h)⟩

theorem Step.indexed {pm : PMap} {sm : SMap} {ng : Nat} {s s' : SvSt} (h : Step pm sm ng s s')
    {u : Ty} (hu : (look u s.index).isSome) : (look u s'.index).isSome := by
  cases h with
  | add curr rest v used' errs' calls' hs hli => exact isSome_keep hu
  | _ => exact hu

theorem mkCall_isSome {t : Ty} {src : Payload} (args : List Nat) (h : ∀ i, src ≠ .arg i) :
    ∃ c, mkCall t src args = some c := by
  cases src with
  | arg i => exact absurd rfl (h i)
  | _ => simp [mkCall]

theorem mkCall_not_arg {t : Ty} {src : Payload} {args : List Nat} {c : Call}
    (h : mkCall t src args = some c) (i : Nat) : src ≠ .arg i := by
  rintro rfl; cases h

theorem mkCall_spec {t : Ty} {src : Payload} {args : List Nat} {c : Call}
    (h : mkCall t src args = some c) (hl : args.length = (depsOf src).length) :
    c.args = args ∧ c.out = t := by
  cases src with
  | arg i => simp [mkCall] at h
  | prov p => simp [mkCall] at h; subst h; simp
  | val v =>
    simp [mkCall] at h; subst h
    simp [depsOf] at hl
    simp [hl]
  | fld f => simp [mkCall] at h; subst h; simp

/-- the arguments `svStep` hands to a call when no dependency carries the abort marker -/
theorem args_spec (idx : List (Ty × Idx)) (deps : List Ty)
    (h : (deps.map fun a => (look a idx).join).any Option.isNone = false) :
    ((deps.map fun a => (look a idx).join).filterMap id).length = deps.length ∧
    ∀ (j : Nat) a d, ((deps.map fun a => (look a idx).join).filterMap id)[j]? = some a →
      deps[j]? = some d → look d idx = some (some a) := by
  have e := eq_map_some _ h
  refine ⟨by simpa using (congrArg List.length e).symm, fun j a d ha hd => ?_⟩
  have := congrArg (·[j]?) e
  simp only [List.getElem?_map, ha, hd, Option.map_some, Option.some.injEq] at this
  exact Option.join_eq_some_iff.mp this

theorem abort_witness {idx : List (Ty × Idx)} {deps : List Ty} (hm : missingOf idx deps = [])
    (ha : (deps.map fun a => (look a idx).join).any Option.isNone = true) :
    ∃ a, look a idx = some none := by
  obtain ⟨x, hx, hxn⟩ := List.any_eq_true.mp ha
  obtain ⟨a, had, rfl⟩ := List.mem_map.mp hx
  refine ⟨a, ?_⟩
  have := missing_nil hm a had
  cases hl : look a idx with
  | none => simp [hl] at this
  | some i => cases i with
    | none => rfl
    | some _ => simp [hl] at hxn

theorem svStep_spec {pm : PMap} {sm : SMap} {ng : Nat} {s : SvSt} {curr : Frame}
    {rest : List Frame} (hs : s.stk = curr :: rest) :
    ∃ s', svStep pm sm ng s = some s' ∧ Step pm sm ng s s' := by
  unfold svStep
  rw [hs]
  dsimp only
  cases hli : look curr.t s.index with
  | some i => exact ⟨_, rfl, .pop curr rest i hs hli⟩
  | none =>
    dsimp only
    cases hlp : look curr.t pm with
    | none =>
      have : missingOf s.index (kids pm curr.t) = [] := by rw [kids_none hlp]; rfl
      exact ⟨_, rfl, .add curr rest _ _ _ _ hs hli this (.noProv hlp)⟩
    | some pt =>
      dsimp only
      by_cases hb : pt.t = curr.t
      · rw [if_neg (not_not_intro hb)]
        -- `Step` speaks of `kids pm curr.t`, `svStep` computes with `depsOf pt.src`
        have hk := kids_conc hlp hb
        split
        · rename_i i hsrc; exact ⟨_, rfl, .argPop curr rest pt i hs hli hlp hb hsrc⟩
        · rename_i hna
          by_cases hm : (depsOf pt.src).filter (fun a => (look a s.index).isNone) = []
          · rw [if_neg (not_not_intro hm)]
            by_cases ha : ((depsOf pt.src).map fun a => (look a s.index).join).any Option.isNone
            · rw [if_pos ha]
              obtain ⟨a, haa⟩ := abort_witness hm ha
              exact ⟨_, rfl, .add curr rest _ _ _ _ hs hli (hk ▸ hm) (.abort pt a hlp hb haa)⟩
            · rw [if_neg ha]
              obtain ⟨c, hc⟩ := mkCall_isSome (t := curr.t)
                (((depsOf pt.src).map fun a => (look a s.index).join).filterMap id)
                (fun i h => hna i h)
              rw [hc]
              obtain ⟨hlen, hargs⟩ := args_spec s.index (depsOf pt.src) (Bool.eq_false_iff.mpr ha)
              obtain ⟨hca, hco⟩ := mkCall_spec hc hlen
              exact ⟨_, rfl, .add curr rest _ _ _ _ hs hli (hk ▸ hm) (.call pt c hlp hb
                (by rw [hco, hca]; exact hc) hco (hca ▸ hlen) (hca ▸ hargs))⟩
          · rw [if_pos hm]
            exact ⟨_, rfl, hk ▸ .push curr rest hs hli (hk ▸ hm)⟩
      · rw [if_pos hb]
        cases hlc : look pt.t s.index with
        | none =>
          have hk : missingOf s.index (kids pm curr.t) = [pt.t] := by
            simp [kids_bind hlp hb, missingOf, hlc]
          have := Step.push (pm := pm) (sm := sm) (ng := ng) curr rest hs hli (by simp [hk])
          rw [hk] at this
          exact ⟨_, rfl, this⟩
        | some i =>
          have hk : missingOf s.index (kids pm curr.t) = [] := by
            simp [kids_bind hlp hb, missingOf, hlc]
          exact ⟨_, rfl, .add curr rest _ _ _ _ hs hli hk (.bind pt i hlp hb hlc)⟩

theorem svStep_nil {pm : PMap} {sm : SMap} {ng : Nat} {s : SvSt} (h : s.stk = []) :
    svStep pm sm ng s = none := by
  simp [svStep, h]

theorem svStep_cases {pm sm ng s s'} (h : svStep pm sm ng s = some s') : Step pm sm ng s s' := by
  cases hs : s.stk with
  | nil => rw [svStep_nil hs] at h; cases h
  | cons curr rest =>
    obtain ⟨s'', h1, h2⟩ := svStep_spec (pm := pm) (sm := sm) (ng := ng) hs
    rw [h] at h1; cases h1; exact h2

theorem svIter_eq (pm : PMap) (sm : SMap) (ng : Nat) :
    svIter pm sm ng = Iter.run (svStep pm sm ng) :=
  Iter.run_unique (fun _ => rfl) fun n s => by rw [svIter]; cases svStep pm sm ng s <;> rfl

theorem svIter_induct {pm sm ng} (P : SvSt → Prop)
    (hP : ∀ s s', P s → Step pm sm ng s s' → P s') (n : Nat) (s : SvSt) (hp : P s) :
    P (svIter pm sm ng n s) :=
  svIter_eq pm sm ng ▸ Iter.run_induct P (fun s s' h hs => hP s s' h (svStep_cases hs)) n hp

end WireP.Solve
