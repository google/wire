import WireV.Sets
import WireP.Lemmas.ListAux
/-! The definitions of `WireV/Sets.lean` as equations, so that the pipeline proofs need not unfold them;
`procSets` goes by induction from the right (`procSets_snoc`). -/
namespace WireP.PipelineProofs
open WireV

def failOf : Option (Nat × SetRes) → Option Err
  | some (id, .err _) => some (Err.importFailed id)
  | none => some (Err.importFailed 0)
  | _ => none

def goodOf : Option (Nat × SetRes) → Option (Nat × PMap)
  | some (id, .ok pm _) => some (id, pm)
  | _ => none

/-- `importsOf` with its two anonymous functions named -/
theorem importsOf_eq (done : List (Nat × SetRes)) (d : SetDef) :
    importsOf done d =
      if (d.imports.map (fun i => done[i]?)).filterMap failOf ≠ [] then
        .error ((d.imports.map (fun i => done[i]?)).filterMap failOf)
      else .ok ((d.imports.map (fun i => done[i]?)).filterMap goodOf) := rfl

theorem failOf_eq_none {r : Option (Nat × SetRes)} :
    failOf r = none ↔ ∃ id pm sm, r = some (id, .ok pm sm) := by
  rcases r with _ | ⟨id, _ | _⟩ <;> simp [failOf]

theorem goodOf_eq_some {r : Option (Nat × SetRes)} {ip : Nat × PMap} :
    goodOf r = some ip ↔ ∃ sm, r = some (ip.1, .ok ip.2 sm) := by
  rcases r with _ | ⟨id, _ | _⟩ <;> simp [goodOf, Prod.ext_iff]

theorem importsOf_isOk_iff {done : List (Nat × SetRes)} {d : SetDef} :
    (∃ m, importsOf done d = .ok m) ↔
      ∀ i ∈ d.imports, ∃ id pm sm, done[i]? = some (id, SetRes.ok pm sm) := by
  have hnil : (d.imports.map (fun i => done[i]?)).filterMap failOf = [] ↔
      ∀ i ∈ d.imports, ∃ id pm sm, done[i]? = some (id, SetRes.ok pm sm) := by
    simp only [List.filterMap_eq_nil_iff, List.forall_mem_map, failOf_eq_none]
  rw [importsOf_eq, ← hnil]
  split
  · exact ⟨nofun, fun h => absurd h ‹_›⟩
  · exact ⟨fun _ => Decidable.not_not.mp ‹_›, fun _ => ⟨_, rfl⟩⟩

theorem importsOf_ok {done : List (Nat × SetRes)} {d : SetDef} {m : List (Nat × PMap)}
    (h : importsOf done d = .ok m) : ∀ ip ∈ m, ∃ sm, (ip.1, SetRes.ok ip.2 sm) ∈ done := by
  rw [importsOf_eq] at h
  split at h
  · cases h
  · cases h
    intro ip hip
    obtain ⟨r, hr, hg⟩ := List.mem_filterMap.mp hip
    obtain ⟨i, -, rfl⟩ := List.mem_map.mp hr
    obtain ⟨sm, e⟩ := goodOf_eq_some.mp hg
    exact ⟨sm, List.mem_of_getElem? e⟩

theorem imports_forall {done : List (Nat × SetRes)} {d : SetDef} {m : List (Nat × PMap)}
    {P : PMap → Prop} (hm : importsOf done d = .ok m)
    (hP : ∀ {id pm sm}, (id, SetRes.ok pm sm) ∈ done → P pm) : ∀ ip ∈ m, P ip.2 :=
  fun ip hip => (importsOf_ok hm ip hip).elim fun _ h => hP h

theorem importsOf_failed {done : List (Nat × SetRes)} {d : SetDef} {i : Nat} (hi : i ∈ d.imports)
    (hf : done[i]? = none ∨ ∃ id es, done[i]? = some (id, SetRes.err es)) :
    ∃ es, importsOf done d = .error es ∧
      Err.importFailed (match done[i]? with | some (id, _) => id | none => 0) ∈ es := by
  have hmem : Err.importFailed (match done[i]? with | some (id, _) => id | none => 0) ∈
      (d.imports.map (fun i => done[i]?)).filterMap failOf := by
    refine List.mem_filterMap.mpr ⟨done[i]?, List.mem_map.mpr ⟨i, hi, rfl⟩, ?_⟩
    rcases hf with hf | ⟨id, es, hf⟩ <;> rw [hf] <;> rfl
  exact ⟨_, by rw [importsOf_eq, if_pos (List.ne_nil_of_mem hmem)], hmem⟩

theorem procSet_eq_ok_iff {order : List Ty} {done : List (Nat × SetRes)} {d : SetDef} {pm : PMap}
    {sm : SMap} :
    procSet order done d = .ok pm sm ↔ ∃ m, importsOf done d = .ok m ∧
      buildProviderMap d.args m d.provs d.vals d.flds d.bnds = .ok (pm, sm) ∧
      checkAcyclic order pm = [] := by
  unfold procSet
  constructor
  · intro h
    split at h
    · cases h
    · rename_i m hm
      split at h
      · cases h
      · rename_i hb
        split at h
        · rename_i hc
          cases h
          exact ⟨m, hm, hb, hc⟩
        · cases h
  · rintro ⟨m, hm, hb, hc⟩
    simp only [hm, hb, hc]

theorem procSet_imports_error {order : List Ty} {done : List (Nat × SetRes)} {d : SetDef}
    {es : List Err} (h : importsOf done d = .error es) : procSet order done d = .err es := by
  unfold procSet
  rw [h]

theorem procSet_bpm_error {order : List Ty} {done : List (Nat × SetRes)} {d : SetDef}
    {m : List (Nat × PMap)} {es : List Err} (hm : importsOf done d = .ok m)
    (hb : buildProviderMap d.args m d.provs d.vals d.flds d.bnds = .error es) :
    procSet order done d = .err es := by
  unfold procSet
  simp only [hm, hb]

theorem procSet_bpm_ok {order : List Ty} {done : List (Nat × SetRes)} {d : SetDef}
    {m : List (Nat × PMap)} {pm : PMap} {sm : SMap} (hm : importsOf done d = .ok m)
    (hb : buildProviderMap d.args m d.provs d.vals d.flds d.bnds = .ok (pm, sm)) :
    procSet order done d =
      if checkAcyclic order pm = [] then .ok pm sm else .err (checkAcyclic order pm) := by
  unfold procSet
  simp only [hm, hb]
  cases checkAcyclic order pm <;> simp

theorem procSets_snoc (order : List Ty) (ds : List SetDef) (d : SetDef) :
    procSets order (ds ++ [d]) =
      procSets order ds ++ [(d.id, procSet order (procSets order ds) d)] := by
  simp [procSets, List.foldl_append]

theorem procSets_length (order : List Ty) (ds : List SetDef) :
    (procSets order ds).length = ds.length := by
  induction ds using snoc_induction with
  | nil => rfl
  | snoc ds d ih => rw [procSets_snoc, List.length_append, List.length_append, ih]; rfl

theorem procSets_take (order : List Ty) (ds : List SetDef) (j : Nat) :
    procSets order (ds.take j) = (procSets order ds).take j := by
  induction ds using snoc_induction with
  | nil => simp [procSets]
  | snoc ds d ih =>
    rw [procSets_snoc]
    by_cases hj : j ≤ ds.length
    · rw [List.take_append_of_le_length hj, ih,
        List.take_append_of_le_length (by rw [procSets_length]; exact hj)]
    · rw [List.take_of_length_le (by simp; omega),
        List.take_of_length_le (by simp [procSets_length]; omega), procSets_snoc]

theorem procSets_getElem? {order : List Ty} {ds : List SetDef} {j : Nat} {dj : SetDef}
    (h : ds[j]? = some dj) :
    (procSets order ds)[j]? = some (dj.id, procSet order (procSets order (ds.take j)) dj) := by
  have hlen : (procSets order (ds.take j)).length = j := by
    rw [procSets_length, List.length_take]
    have := (List.getElem?_eq_some_iff.mp h).1
    omega
  rw [← List.getElem?_take_of_lt (Nat.lt_succ_self j), ← procSets_take, List.take_add_one, h,
    Option.toList_some, procSets_snoc, List.getElem?_append_right (Nat.le_of_eq hlen), hlen,
    Nat.sub_self]
  rfl

theorem procSets_getLast {order : List Ty} {ds : List SetDef} {d : SetDef}
    (hd : ds.getLast? = some d) :
    (procSets order ds).getLast? =
      some (d.id, procSet order (procSets order ds.dropLast) d) := by
  obtain ⟨pre, rfl⟩ := List.getLast?_eq_some_iff.mp hd
  rw [List.dropLast_concat, procSets_snoc, List.getLast?_concat]

theorem procSets_last_eq {order : List Ty} {ds : List SetDef} {d : SetDef}
    (hd : ds.getLast? = some d) {id : Nat} {r : SetRes}
    (h : (procSets order ds).getLast? = some (id, r)) :
    id = d.id ∧ procSet order (procSets order ds.dropLast) d = r := by
  rw [procSets_getLast hd, Option.some.injEq, Prod.mk.injEq] at h
  exact ⟨h.1.symm, h.2⟩

/-- Induction over the accepted maps: a property that `buildProviderMap` hands on from the imported maps
    to the new one holds of all of them. -/
theorem procSets_ok_induct {order : List Ty} {ds : List SetDef} {P : PMap → Prop}
    (step : ∀ d ∈ ds, ∀ m pm sm, (∀ ip ∈ m, P ip.2) →
      buildProviderMap d.args m d.provs d.vals d.flds d.bnds = .ok (pm, sm) → P pm)
    {id : Nat} {pm : PMap} {sm : SMap} (h : (id, SetRes.ok pm sm) ∈ procSets order ds) : P pm := by
  induction ds using snoc_induction generalizing id pm sm with
  | nil => cases h
  | snoc ds d ih =>
    have ih' := @ih (fun d hd => step d (List.mem_append_left _ hd))
    rw [procSets_snoc] at h
    rcases List.mem_append.mp h with h | h
    · exact ih' h
    · simp only [List.mem_singleton, Prod.mk.injEq] at h
      obtain ⟨m, hm, hb, -⟩ := procSet_eq_ok_iff.mp h.2.symm
      exact step d (by simp) m pm sm (imports_forall hm ih') hb

theorem planLast_eq {order : List Ty} {ds : List SetDef} {d : SetDef} (hd : ds.getLast? = some d)
    (out : Ty) :
    planLast order ds out =
      match procSet order (procSets order ds.dropLast) d with
      | .ok pm sm => solve pm sm d (impIdsOf (procSets order ds) d) (d.args.getD []) out
      | .err es => .errs es := by
  unfold planLast
  simp only [hd, procSets_getLast hd]
  cases procSet order (procSets order ds.dropLast) d <;> rfl

theorem planLast_of_ok {order : List Ty} {ds : List SetDef} {d : SetDef} (hd : ds.getLast? = some d)
    {id : Nat} {pm : PMap} {sm : SMap}
    (hl : (procSets order ds).getLast? = some (id, SetRes.ok pm sm)) (out : Ty) :
    planLast order ds out = solve pm sm d (impIdsOf (procSets order ds) d) (d.args.getD []) out := by
  rw [planLast_eq hd, (procSets_last_eq hd hl).2]

theorem planLast_of_err {order : List Ty} {ds : List SetDef} {d : SetDef} (hd : ds.getLast? = some d)
    {es : List Err} (hl : procSet order (procSets order ds.dropLast) d = .err es) (out : Ty) :
    planLast order ds out = .errs es := by
  rw [planLast_eq hd, hl]

theorem planLast_ok_inv {order : List Ty} {ds : List SetDef} {d : SetDef} (hd : ds.getLast? = some d)
    {out : Ty} {calls : List Call} (h : planLast order ds out = .ok calls) :
    ∃ pm sm, (procSets order ds).getLast? = some (d.id, SetRes.ok pm sm) ∧
      solve pm sm d (impIdsOf (procSets order ds) d) (d.args.getD []) out = .ok calls := by
  rw [planLast_eq hd] at h
  rw [procSets_getLast hd]
  cases hp : procSet order (procSets order ds.dropLast) d with
  | ok pm sm => rw [hp] at h; exact ⟨pm, sm, rfl, h⟩
  | err es => rw [hp] at h; cases h

end WireP.PipelineProofs
