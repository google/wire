import WireP.Lemmas.PipelineFront
import WireP.Lemmas.PMapPerm
import WireP.Lemmas.SolveLive
/-! How the front half rejects one set, and when it accepts all.  A duplicate source, a failed import, a
cycle: each is a statement about `procSet`, which `planLast_of_err` turns into a verdict of `planLast`.
Conversely the front-end conditions (`SetAcceptable`) are sufficient (`planLast_accepts`). -/
namespace WireP.PipelineProofs
open WireV WireP.Pipeline WireP.C05 WireP.C07 WireP.Solve

theorem procSet_dup_rejected {order : List Ty} {done : List (Nat × SetRes)} {d : SetDef}
    {impMaps : List (Nat × PMap)} (himp : importsOf done d = .ok impMaps)
    (hdup : ¬ (allSources d.args impMaps d.provs d.vals d.flds d.bnds).Nodup) :
    ∃ es, procSet order done d = .err es ∧ es ≠ [] := by
  obtain ⟨es, hb, hne⟩ := PMapProofs.bpm_dup_rejected d.args impMaps d.provs d.vals d.flds d.bnds hdup
  exact ⟨es, procSet_bpm_error himp hb, hne⟩

theorem procSet_import_failed {order : List Ty} {done : List (Nat × SetRes)} {d : SetDef} {i : Nat}
    (hi : i ∈ d.imports)
    (hf : done[i]? = none ∨ ∃ id es, done[i]? = some (id, SetRes.err es)) :
    ∃ es, procSet order done d = .err es ∧
      Err.importFailed (match done[i]? with | some (id, _) => id | none => 0) ∈ es :=
  (importsOf_failed hi hf).imp fun _ h => ⟨procSet_imports_error h.1, h.2⟩

theorem procSet_cyclic_rejected {order : List Ty} {done : List (Nat × SetRes)} {d : SetDef}
    {impMaps : List (Nat × PMap)} {pm : PMap} {sm : SMap} (himp : importsOf done d = .ok impMaps)
    (hb : buildProviderMap d.args impMaps d.provs d.vals d.flds d.bnds = .ok (pm, sm))
    (hcov : ∀ k, (look k pm).isSome → k ∈ order) (hc : Cyclic (succOf pm)) :
    ∃ es, procSet order done d = .err es ∧ (∃ tr, Err.cycle tr ∈ es) ∧
      ∀ e ∈ es, ∃ tr, e = Err.cycle tr ∧ IsCycleTrail (succOf pm) tr := by
  have hne : checkAcyclic order pm ≠ [] :=
    fun h => (AcyclicProofs.checkAcyclic_spec order pm hcov).mp h hc
  have hall : ∀ e ∈ checkAcyclic order pm, ∃ tr, e = Err.cycle tr ∧ IsCycleTrail (succOf pm) tr := by
    intro e he
    rw [AcyclicProofs.checkAcyclic_eq] at he
    obtain ⟨tr, htr, rfl⟩ := List.mem_map.mp he
    exact ⟨tr, rfl, AcyclicProofs.va_sound pm _ tr htr⟩
  obtain ⟨e, he⟩ := List.exists_mem_of_ne_nil _ hne
  obtain ⟨tr, rfl, -⟩ := hall e he
  exact ⟨_, by rw [procSet_bpm_ok himp hb, if_neg hne], ⟨tr, he⟩, hall⟩

/-- `hdone`: importing a rejected set fails.  `hcov`, `hsrc`: the cycle check takes its roots from `order`
    (`checkAcyclic_spec`). -/
theorem procSet_accepts {order : List Ty} {done : List (Nat × SetRes)} {d : SetDef}
    (hdone : ∀ r ∈ done, ∃ pm sm, r.2 = SetRes.ok pm sm)
    (hcov : ∀ {id pm sm}, (id, SetRes.ok pm sm) ∈ done → ∀ k, (look k pm).isSome → k ∈ order)
    (hsrc : ∀ t ∈ ownSources d, t ∈ order) (hacc : SetAcceptable done d) :
    ∃ pm sm, procSet order done d = .ok pm sm := by
  obtain ⟨hrange, hrest⟩ := hacc
  obtain ⟨m, hm⟩ := importsOf_isOk_iff.mpr fun i hi => by
    have hlt := hrange i hi
    obtain ⟨pm, sm, e⟩ := hdone done[i] (List.getElem_mem hlt)
    exact ⟨done[i].1, pm, sm, by rw [List.getElem?_eq_getElem hlt, ← e]⟩
  obtain ⟨hnd, hbp, hac⟩ := hrest m hm
  obtain ⟨⟨pm, sm⟩, hb⟩ := PMapProofs.bpm_ok_of hnd hbp
  have hk := PMapInv.bpm_covered hsrc (imports_forall hm hcov) hb
  exact ⟨pm, sm, procSet_eq_ok_iff.mpr
    ⟨m, hm, hb, (AcyclicProofs.checkAcyclic_spec order pm hk).mpr (hac pm sm hb)⟩⟩

theorem procSets_all_ok {order : List Ty} {ds : List SetDef} (horder : OrderCovers order ds)
    (hacc : AllAcceptable order ds) : ∀ r ∈ procSets order ds, ∃ pm sm, r.2 = SetRes.ok pm sm := by
  -- `AllAcceptable` speaks about prefixes: by induction on their length
  suffices ∀ n, n ≤ ds.length → ∀ r ∈ procSets order (ds.take n), ∃ pm sm, r.2 = SetRes.ok pm sm by
    exact fun r hr => this ds.length (Nat.le_refl _) r (by rwa [List.take_length])
  intro n
  induction n with
  | zero => intro _ r hr; cases hr
  | succ n ih =>
    intro hn r hr
    have hlt : n < ds.length := by omega
    have hdn : ds[n]? = some ds[n] := List.getElem?_eq_getElem hlt
    rw [List.take_add_one, hdn, Option.toList_some, procSets_snoc] at hr
    rcases List.mem_append.mp hr with hr | hr
    · exact ih (by omega) r hr
    · rw [List.mem_singleton] at hr
      subst hr
      exact procSet_accepts (ih (by omega))
        (procSets_covered fun d hd => horder d (List.take_subset n ds hd))
        (horder _ (List.getElem_mem hlt)) (hacc n _ hdn)

/-- The converse of `planLast_ok_spec'`: of the set the front half accepted last, `PlanSpec.no_missing`
    and `PlanSpec.all_used` are all that `.ok` needs. -/
theorem planLast_ok_of_accepted {order : List Ty} {ds : List SetDef} {d : SetDef} {id : Nat}
    {pm : PMap} {sm : SMap} {out : Ty} (hbl : BuildLast ds) (hd : ds.getLast? = some d)
    (hl : (procSets order ds).getLast? = some (id, SetRes.ok pm sm))
    (horder : ∀ k, (look k pm).isSome → k ∈ order)
    (hmiss : ∀ u, Reach pm out u → u ∈ d.args.getD [] ∨ (look u pm).isSome)
    (hused : ∀ src e, DirectItem d (impIdsOf (procSets order ds) d) src e →
      ∃ t, Reach pm out t ∧ t ∉ d.args.getD [] ∧ look t sm = some src) :
    planLast order ds out = .ok (final pm sm (d.args.getD []) out).calls := by
  obtain ⟨hH, hga, -⟩ := planLast_hyps hbl hd hl horder
  have he := solve_missing_if (sm := sm) hH.concClosed hH.givenNodup hmiss
  rw [planLast_of_ok hd hl]
  exact solve_ok_iff.mpr ⟨solve_terminates hH, he, (verifyArgsUsed_nil_iff_direct ..).mpr
    fun src e hitem => (used_spec_partial hH hga.leaf he src).mpr (hused src e hitem), rfl⟩

theorem planLast_accepts {order : List Ty} {ds : List SetDef} {d : SetDef} {out : Ty}
    (hbl : BuildLast ds) (hd : ds.getLast? = some d) (horder : OrderCovers order ds)
    (hacc : AllAcceptable order ds)
    (hneed : ∀ pm sm, (procSets order ds).getLast? = some (d.id, SetRes.ok pm sm) →
      (∀ u, Reach pm out u → u ∈ d.args.getD [] ∨ (look u pm).isSome) ∧
      ∀ src e, DirectItem d (impIdsOf (procSets order ds) d) src e →
        ∃ t, Reach pm out t ∧ t ∉ d.args.getD [] ∧ look t sm = some src) :
    ∃ calls, planLast order ds out = .ok calls := by
  have hlast := procSets_getLast (order := order) hd
  obtain ⟨pm, sm, hok⟩ := procSets_all_ok horder hacc _ (List.mem_of_getLast? hlast)
  simp only at hok
  rw [hok] at hlast
  obtain ⟨hmiss, hused⟩ := hneed pm sm hlast
  exact ⟨_, planLast_ok_of_accepted hbl hd hlast (last_covered horder hlast) hmiss hused⟩

/-- A decidable form of "every set is accepted", for concrete programs. -/
def isOk : SetRes → Bool
  | .ok _ _ => true
  | .err _ => false

theorem all_ok_of_all {done : List (Nat × SetRes)} (h : done.all (fun r => isOk r.2) = true) :
    ∀ r ∈ done, ∃ pm sm, r.2 = SetRes.ok pm sm := by
  intro r hr
  have := List.all_eq_true.mp h r hr
  cases hr2 : r.2 with
  | ok pm sm => exact ⟨pm, sm, rfl⟩
  | err es => rw [hr2] at this; cases this

end WireP.PipelineProofs
