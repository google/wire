/-! # Lexical scoping: name resolution survives an injective renaming (C15, T7; no `renameOccs` here)

A program over the identifiers of a node is a flat list of tokens: `enter`/`leave` open and close a
block, `decl i` declares identifier occurrence `i` in the innermost block, `use i` uses it.
Resolution is by name, innermost scope first, through the local scopes `loc` and then the scopes
`env0` around the node (file scope, universe).  `bound_rename` is about an arbitrary renaming `ρ` of
(name, object) pairs that is injective on the names of the pairs in play (`G`) and fixes the outer
scopes. -/
namespace WireP.RenameProofs

inductive Tok
  | enter
  | leave
  | decl (i : Nat)
  | use (i : Nat)
deriving DecidableEq, Repr

def declIdx (toks : List Tok) : List Nat :=
  toks.filterMap (fun t => match t with | .decl i => some i | _ => none)

def useIdx (toks : List Tok) : List Nat :=
  toks.filterMap (fun t => match t with | .use i => some i | _ => none)

theorem mem_declIdx {toks : List Tok} {i : Nat} (h : Tok.decl i ∈ toks) : i ∈ declIdx toks :=
  List.mem_filterMap.2 ⟨_, h, rfl⟩

theorem mem_useIdx {toks : List Tok} {i : Nat} (h : Tok.use i ∈ toks) : i ∈ useIdx toks :=
  List.mem_filterMap.2 ⟨_, h, rfl⟩

/-- one scope: (name, object) pairs, latest declaration first.  Object `none` is "no object", as in
    `WireV.Occ.obj`: it is what an import name of the generated file has in the outer scopes, so a
    qualifier (an identifier without object) resolves correctly when it resolves to that entry. -/
abbrev Scope := List (String × Option Nat)

def lookupScope (n : String) (s : Scope) : Option (Option Nat) :=
  (s.find? (fun p => p.1 == n)).map (·.2)

def lookupStack (n : String) : List Scope → Option (Option Nat)
  | [] => none
  | s :: ss =>
    match lookupScope n s with
    | some r => some r
    | none => lookupStack n ss

/-- `bound env0 chk nm ob loc toks`: every use `i` with `chk i` resolves by its name `nm i` to its
    object `ob i`; blocks are balanced and nothing is declared outside a block of the node -/
def bound (env0 : List Scope) (chk : Nat → Bool) (nm : Nat → String) (ob : Nat → Option Nat) :
    List Scope → List Tok → Bool
  | _, [] => true
  | loc, .enter :: ts => bound env0 chk nm ob ([] :: loc) ts
  | [], .leave :: _ => false
  | _ :: loc, .leave :: ts => bound env0 chk nm ob loc ts
  | [], .decl _ :: _ => false
  | s :: loc, .decl i :: ts => bound env0 chk nm ob (((nm i, ob i) :: s) :: loc) ts
  | loc, .use i :: ts =>
    (!chk i || lookupStack (nm i) (loc ++ env0) == some (ob i)) && bound env0 chk nm ob loc ts

theorem lookupScope_cons (n : String) (q : String × Option Nat) (s : Scope) :
    lookupScope n (q :: s) = if q.1 = n then some q.2 else lookupScope n s := by
  simp only [lookupScope, List.find?_cons]
  by_cases h : q.1 = n
  · simp [h]
  · simp [h, beq_eq_false_iff_ne.2 h]

theorem lookupScope_append (n : String) (s t : Scope) :
    lookupScope n (s ++ t) = (lookupScope n s).or (lookupScope n t) := by
  simp only [lookupScope, List.find?_append, Option.map_or]

theorem lookupScope_eq_none {n : String} {s : Scope} (h : ∀ q ∈ s, q.1 ≠ n) :
    lookupScope n s = none := by
  simpa [lookupScope] using h

theorem lookupStack_eq_flatten (n : String) : ∀ env : List Scope,
    lookupStack n env = lookupScope n env.flatten
  | [] => rfl
  | s :: env => by
    rw [lookupStack, List.flatten_cons, lookupScope_append, lookupStack_eq_flatten n env]
    cases lookupScope n s <;> rfl

section
variable (ρ : String × Option Nat → String)

def rnPair (p : String × Option Nat) : String × Option Nat := (ρ p, p.2)

variable {ρ} {G : String × Option Nat → Prop}
  (hinj : ∀ p q, G p → G q → ρ p = ρ q → p.1 = q.1)
include hinj

theorem lookupScope_rn {x : String} {r : Option Nat} (hx : G (x, r)) :
    ∀ s : Scope, (∀ q ∈ s, G q) → (∀ r', lookupScope x s = some r' → r' = r) →
      lookupScope (ρ (x, r)) (s.map (rnPair ρ)) = lookupScope x s
  | [], _, _ => rfl
  | q :: s, hg, hr => by
    have hq := hg q List.mem_cons_self
    simp only [List.map_cons, lookupScope_cons, rnPair] at hr ⊢
    by_cases hqx : q.1 = x
    · have : q = (x, r) := Prod.ext hqx (hr _ (if_pos hqx))
      simp [this]
    · have hne : ρ q ≠ ρ (x, r) := fun he => hqx (hinj q (x, r) hq hx he)
      simp only [if_neg hqx, if_neg hne] at hr ⊢
      exact lookupScope_rn hx s (fun q' hq' => hg q' (List.mem_cons_of_mem _ hq')) hr

theorem lookupStack_rn {x : String} {r : Option Nat} (hx : G (x, r)) {env : List Scope}
    (hg : ∀ s ∈ env, ∀ q ∈ s, G q) (h : lookupStack x env = some r) :
    lookupStack (ρ (x, r)) (env.map (·.map (rnPair ρ))) = some r := by
  rw [lookupStack_eq_flatten] at h ⊢
  rw [← List.map_flatten, lookupScope_rn hinj hx _ _ (fun r' hr' => Option.some.inj (hr'.symm.trans h)), h]
  intro q hq
  obtain ⟨s, hs, hqs⟩ := List.mem_flatten.1 hq
  exact hg s hs q hqs

end

theorem map_rn_fixed {ρ : String × Option Nat → String} {env0 : List Scope}
    (h : ∀ s ∈ env0, ∀ q ∈ s, ρ q = q.1) : env0.map (·.map (rnPair ρ)) = env0 := by
  refine (List.map_congr_left fun s hs => ?_).trans (List.map_id _)
  refine (List.map_congr_left fun q hq => ?_).trans (List.map_id _)
  simp only [rnPair, h s hs q hq, id]

section
variable {ρ : String × Option Nat → String} {G : String × Option Nat → Prop} {fs : List String}
  {env0 : List Scope} {chk : Nat → Bool} {nm nm' : Nat → String} {ob : Nat → Option Nat} {Q : Prop}

variable (ρ G fs env0 chk nm nm' ob Q) in
/-- what `bound_rename` asks of one token.  `chk` says which uses are checked before; afterwards all
    are.  A use that is checked only afterwards must be a qualifier: no object, a name of the file
    scope, which means "no object" in the outer scopes.  `Q` switches between the two forms of T7:
    with `Q := False` (`rename_preserves_binding`) every use must have been checked before and
    nothing is asked of the declarations; with `Q := True` (`rename_no_capture`) uses may be
    unchecked before, and in exchange no new name of a declaration may be in `fs`. -/
def TokOK : Tok → Prop
  | .decl i => G (nm i, ob i) ∧ nm' i = ρ (nm i, ob i) ∧ (Q → nm' i ∉ fs)
  | .use i => G (nm i, ob i) ∧ nm' i = ρ (nm i, ob i) ∧
      (chk i = false → Q ∧ ob i = none ∧ nm i ∈ fs ∧ lookupStack (nm i) env0 = some none)
  | _ => True

/-- stated from any point of the run, which is what the induction needs: the run on the new names has,
    as its local scopes, the renamed local scopes of the run on the old names -/
theorem bound_rename (hinj : ∀ p q, G p → G q → ρ p = ρ q → p.1 = q.1)
    (hnone : ∀ x, ρ (x, none) = x) (hG0 : ∀ s ∈ env0, ∀ q ∈ s, G q ∧ ρ q = q.1)
    (toks : List Tok) (loc : List Scope) (ht : ∀ t ∈ toks, TokOK ρ G fs env0 chk nm nm' ob Q t)
    (hL : ∀ s ∈ loc, ∀ q ∈ s, G q ∧ (Q → ρ q ∉ fs)) (hb : bound env0 chk nm ob loc toks = true) :
    bound env0 (fun _ => true) nm' ob (loc.map (·.map (rnPair ρ))) toks = true := by
  fun_induction bound env0 chk nm ob loc toks with
  | case1 => rfl
  | case2 loc ts ih =>  -- `enter`
    exact ih (fun t h => ht t (List.mem_cons_of_mem _ h))
      (List.forall_mem_cons.2 ⟨fun _ h => (nomatch h), hL⟩) hb
  | case3 => cases hb  -- `leave` outside a block
  | case4 s loc ts ih =>  -- `leave`
    exact ih (fun t h => ht t (List.mem_cons_of_mem _ h)) (List.forall_mem_cons.1 hL).2 hb
  | case5 => cases hb  -- `decl` outside a block
  | case6 s loc i ts ih =>  -- `decl i`
    obtain ⟨hg, hn, hq⟩ : TokOK ρ G fs env0 chk nm nm' ob Q (.decl i) := ht _ List.mem_cons_self
    obtain ⟨hs, hL'⟩ := List.forall_mem_cons.1 hL
    simp only [bound, List.map_cons]
    rw [hn] at hq ⊢
    exact ih (fun t h => ht t (List.mem_cons_of_mem _ h))
      (List.forall_mem_cons.2 ⟨List.forall_mem_cons.2 ⟨⟨hg, hq⟩, hs⟩, hL'⟩) hb
  | case7 loc i ts ih =>  -- `use i`
    obtain ⟨hg, hn, hq⟩ : TokOK ρ G fs env0 chk nm nm' ob Q (.use i) := ht _ List.mem_cons_self
    simp only [Bool.and_eq_true] at hb
    simp only [bound, Bool.not_true, Bool.false_or, Bool.and_eq_true, beq_iff_eq]
    refine ⟨?_, ih (fun t h => ht t (List.mem_cons_of_mem _ h)) hL hb.2⟩
    cases hc : chk i with
    | true =>
      -- a use that resolved correctly before: `lookupStack_rn` on `loc ++ env0`
      have h1 : lookupStack (nm i) (loc ++ env0) = some (ob i) := by simpa [hc] using hb.1
      have := lookupStack_rn hinj hg (fun s hs => (List.mem_append.1 hs).elim
        (fun hs q hq => (hL s hs q hq).1) (fun hs q hq => (hG0 s hs q hq).1)) h1
      rwa [List.map_append, map_rn_fixed fun s hs q hq => (hG0 s hs q hq).2, ← hn] at this
    | false =>
      -- a qualifier: no renamed local declaration carries a name of the file scope
      obtain ⟨hQ, hob, hfs, hl0⟩ := hq hc
      rw [hn, hob, hnone, lookupStack_eq_flatten, List.flatten_append, lookupScope_append,
        lookupScope_eq_none, Option.none_or, ← lookupStack_eq_flatten, hl0]
      intro q hq' he
      obtain ⟨s', hs', hqs⟩ := List.mem_flatten.1 hq'
      obtain ⟨s, hs, rfl⟩ := List.mem_map.1 hs'
      obtain ⟨q0, hq0, rfl⟩ := List.mem_map.1 hqs
      exact (hL s hs q0 hq0).2 hQ ((show ρ q0 = nm i from he) ▸ hfs)

end

end WireP.RenameProofs
