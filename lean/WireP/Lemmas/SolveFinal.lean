import WireP.Lemmas.SolveBigStep
/-! # What holds of `final pm sm given out`, the state `solve` inspects

The corollaries of `Inv.final` and `final_run` that the property files `C02`, `C06`, `C08`, `C11`
quote. -/
namespace WireP.Solve
open WireV

section
variable {pm : PMap} {sm : SMap} {given : List Ty} {out : Ty}

theorem H.inv (hH : H pm given) (sm : SMap) (out : Ty) :
    Inv pm sm given out (final pm sm given out) :=
  Inv.final sm hH.concClosed hH.givenNodup out

theorem solve_terminates (hH : H pm given) : (final pm sm given out).stk = [] :=
  (final_run sm hH.acyclic hH.argsGiven out).1

theorem mkCall_ins {t : Ty} {src : Payload} {args : List Nat} {c : Call}
    (h : mkCall t src args = some c) (hf : ∀ f, src ≠ .fld f) : c.ins = depsOf src := by
  cases src with
  | arg i => simp [mkCall] at h
  | prov p => simp [mkCall] at h; subst h; rfl
  | val v => simp [mkCall] at h; subst h; rfl
  | fld f => exact absurd rfl (hf f)

theorem mkCall_ins_fld {t : Ty} {f : Fld} {args : List Nat} {c : Call}
    (h : mkCall t (.fld f) args = some c) : c.ins = [] := by
  simp [mkCall] at h; subst h; rfl

theorem solve_call_sound (hcc : ConcClosed pm) (hnd : given.Nodup) (hg : GivenSelf pm given) :
    ∀ (p : Nat) c, (final pm sm given out).calls[p]? = some c →
      ∃ pt, look c.out pm = some pt ∧ pt.t = c.out ∧ (∀ i, pt.src ≠ .arg i) ∧
        mkCall c.out pt.src c.args = some c ∧ c.args.length = (depsOf pt.src).length ∧
        ∀ (j : Nat) a d, c.args[j]? = some a → (depsOf pt.src)[j]? = some d →
          a < given.length + p ∧
          produced given (final pm sm given out).calls a = some (resolveTy pm d) := by
  intro p c hpc
  have hI := Inv.final sm hcc hnd out
  obtain ⟨pt, hlp, hb, hmk, hlen⟩ := hI.callPay c (List.mem_of_getElem? hpc)
  exact ⟨pt, hlp, hb, mkCall_not_arg hmk, hmk, hlen,
    hI.callArgs hg p c pt hpc hlp⟩

theorem call_not_given {s : SvSt} (hI : Inv pm sm given out s) {p : Nat} {c : Call}
    (hpc : s.calls[p]? = some c) : c.out ∉ given :=
  hI.not_given_of_var (hI.callIdx p c hpc) (Nat.le_add_right _ _)

theorem solve_outs_nodup (hcc : ConcClosed pm) (hnd : given.Nodup) :
    ((final pm sm given out).calls.map (·.out)).Nodup ∧
    ∀ c ∈ (final pm sm given out).calls, c.out ∉ given := by
  have hI := Inv.final sm hcc hnd out
  refine ⟨?_, ?_⟩
  · unfold List.Nodup
    rw [List.pairwise_map, List.pairwise_iff_getElem]
    intro i j hi hj hij heq
    have h1 := hI.callIdx i _ (List.getElem?_eq_getElem hi)
    have h2 := hI.callIdx j _ (List.getElem?_eq_getElem hj)
    rw [heq, h2] at h1
    simp only [Option.some.injEq] at h1
    omega
  · intro c hc
    obtain ⟨p, hp⟩ := List.getElem?_of_mem hc
    exact call_not_given hI hp

theorem solve_only_needed (hcc : ConcClosed pm) (hnd : given.Nodup) :
    ∀ c ∈ (final pm sm given out).calls, Reach pm out c.out := by
  intro c hc
  have hI := Inv.final sm hcc hnd out
  obtain ⟨p, hp⟩ := List.getElem?_of_mem hc
  rcases hI.idxReach c.out (Option.isSome_of_eq_some (hI.callIdx p c hp)) with h | h
  · exact absurd h (call_not_given hI hp)
  · exact h

theorem solve_result_partial (hH : H pm given) (hg : GivenSelf pm given)
    (he : (final pm sm given out).errs = []) :
    ∃ n, look out (final pm sm given out).index = some (some n) ∧
      produced given (final pm sm given out).calls n = some (resolveTy pm out) := by
  have hI := hH.inv sm out
  obtain ⟨n, hn⟩ := hI.idx_var he (final_run sm hH.acyclic hH.argsGiven out).2
  exact ⟨n, hn, hI.idxSound hg out n hn⟩

theorem reach_indexed {s : SvSt} (hI : Inv pm sm given out s) (hl : GivenLeaf pm given) :
    ∀ a u, Reach pm a u → (look a s.index).isSome → (look u s.index).isSome := by
  intro a u h
  induction h with
  | refl _ => exact id
  | @step a' b' c' hab _ ih =>
    intro ha
    by_cases hg : a' ∈ given
    · exact absurd hab (hl a' hg b')
    · exact ih (hI.closed a' ha hg b' hab)

theorem final_indexed (hH : H pm given) (hl : GivenLeaf pm given) {t : Ty} (hr : Reach pm out t) :
    (look t (final pm sm given out).index).isSome :=
  reach_indexed (hH.inv sm out) hl out t hr (final_run sm hH.acyclic hH.argsGiven out).2

theorem solve_missing_named (hcc : ConcClosed pm) (hnd : given.Nodup) :
    ∀ e ∈ (final pm sm given out).errs, ∃ t up, e = Err.noProvider t up ∧ look t pm = none ∧
      t ∉ given ∧ Reach pm out t :=
  (Inv.final sm hcc hnd out).errsNamed

theorem solve_missing_if (hcc : ConcClosed pm) (hnd : given.Nodup)
    (h : ∀ u, Reach pm out u → u ∈ given ∨ (look u pm).isSome) :
    (final pm sm given out).errs = [] := by
  cases he : (final pm sm given out).errs with
  | nil => rfl
  | cons e es =>
    obtain ⟨t, up, _, hlp, hng, hr⟩ :=
      solve_missing_named (sm := sm) (out := out) hcc hnd e (by rw [he]; exact List.mem_cons_self)
    rcases h t hr with h' | h'
    · exact absurd h' hng
    · rw [hlp] at h'; cases h'

theorem no_implicit_iface_partial (hH : H pm given) (hl : GivenLeaf pm given) {t : Ty}
    (hlp : look t pm = none) (hng : t ∉ given) (hr : Reach pm out t) :
    (final pm sm given out).errs ≠ [] := by
  have hI := hH.inv sm out
  exact hI.abortErr t (hI.noProvIdx t (final_indexed hH hl hr) hng hlp)

theorem solve_missing_iff_partial (hH : H pm given) (hl : GivenLeaf pm given) :
    (final pm sm given out).errs = [] ↔
      ∀ u, Reach pm out u → u ∈ given ∨ (look u pm).isSome := by
  refine ⟨?_, solve_missing_if hH.concClosed hH.givenNodup⟩
  intro he u hr
  by_cases hg : u ∈ given
  · exact Or.inl hg
  · cases hlp : look u pm with
    | some _ => exact Or.inr rfl
    | none => exact absurd he (no_implicit_iface_partial hH hl hlp hg hr)

theorem used_sound (hcc : ConcClosed pm) (hnd : given.Nodup) :
    ∀ src ∈ (final pm sm given out).used,
      ∃ t, Reach pm out t ∧ t ∉ given ∧ look t sm = some src :=
  (Inv.final sm hcc hnd out).usedSound

theorem used_spec_partial (hH : H pm given) (hl : GivenLeaf pm given)
    (he : (final pm sm given out).errs = []) (src : SrcId) :
    src ∈ (final pm sm given out).used ↔
      ∃ t, Reach pm out t ∧ t ∉ given ∧ look t sm = some src := by
  refine ⟨used_sound hH.concClosed hH.givenNodup src, ?_⟩
  rintro ⟨t, hr, hng, hsm⟩
  exact (hH.inv sm out).usedCompl t (final_indexed hH hl hr) hng
    (((solve_missing_iff_partial hH hl).mp he t hr).resolve_left hng) src hsm

theorem bind_no_call (hcc : ConcClosed pm) (hnd : given.Nodup) {k : Ty} {pt : PT}
    (hlp : look k pm = some pt) (hb : pt.t ≠ k) :
    ∀ c ∈ (final pm sm given out).calls, c.out ≠ k := by
  intro c hc e
  obtain ⟨pt', hlp', hb', _⟩ := (Inv.final sm hcc hnd out).callPay c hc
  rw [e, hlp] at hlp'
  cases hlp'
  exact hb (by rw [hb', e])

theorem bind_same_index_partial (hH : H pm given) (hl : GivenLeaf pm given) {k : Ty} {pt : PT}
    (hlp : look k pm = some pt) (hb : pt.t ≠ k) (hr : Reach pm out k) :
    look k (final pm sm given out).index = look pt.t (final pm sm given out).index :=
  (hH.inv sm out).bindIdx k pt hlp hb
    (fun hg => hl k hg pt.t ⟨pt, hlp, Or.inl ⟨hb, rfl⟩⟩) (final_indexed hH hl hr)

theorem bind_value_partial (hH : H pm given) (hl : GivenLeaf pm given)
    (he : (final pm sm given out).errs = []) {k : Ty} {pt : PT}
    (hlp : look k pm = some pt) (hb : pt.t ≠ k) (hr : Reach pm out k) :
    ∃ n, look k (final pm sm given out).index = some (some n) ∧
      look pt.t (final pm sm given out).index = some (some n) ∧
      produced given (final pm sm given out).calls n = some pt.t := by
  have hI := hH.inv sm out
  obtain ⟨n, hn⟩ := hI.idx_var he (final_indexed hH hl hr)
  exact ⟨n, hn, bind_same_index_partial hH hl hlp hb hr ▸ hn,
    resolveTy_some hlp ▸ hI.idxSound hl.self k n hn⟩

end

end WireP.Solve
