import WireP.Lemmas.NameProofsInj
import WireP.Lemmas.ListAux
/-! # `qualifyImport`, `valueVarName` (C14)

Each adds one name, chosen against the file scope, to a `NameEnv`. -/
namespace WireP.NameProofs
open WireV

/-- what the import table of a generated file keeps under `qualifyImport` and `valueVarName` -/
def ImportsOK (e : NameEnv) : Prop :=
  (e.imports.map (·.2)).Nodup ∧ (e.imports.map (·.1)).Nodup ∧
    ∀ n ∈ e.imports.map (·.2), n ∉ e.values ∧ n ∉ e.fileScope

theorem inFileScope_false_parts {e : NameEnv} {n : String} (h : e.inFileScope n = false) :
    n ∉ e.imports.map (·.2) ∧ n ∉ e.values ∧ n ∉ e.fileScope := by
  simpa [scopeList, not_or, and_assoc] using (inFileScope_false_iff e n).1 h

theorem qualifyImport_some {fuel : Nat} {e e' : NameEnv} {pkgName path nm : String}
    (h : qualifyImport fuel e pkgName path = some (nm, e')) :
    ((path, nm) ∈ e.imports ∧ e' = e) ∨
    (path ∉ e.imports.map (·.1) ∧
      disambiguate fuel pkgName (fun n => n == "err" || e.inFileScope n) = some nm ∧
      e' = { e with imports := e.imports ++ [(path, nm)] }) := by
  simp only [qualifyImport] at h
  split at h
  · rename_i ip hip
    cases h
    obtain ⟨hm, rfl⟩ := find?_key_some (f := Prod.fst) hip
    exact Or.inl ⟨hm, rfl⟩
  · rename_i hnone
    split at h
    · cases h
    · rename_i nm' hd
      cases h
      refine Or.inr ⟨fun hp => ?_, hd, rfl⟩
      obtain ⟨ip, hip, rfl⟩ := List.mem_map.1 hp
      exact List.find?_eq_none.1 hnone ip hip (by simp)

theorem qualifyImport_fresh {fuel : Nat} {e e' : NameEnv} {pkgName path nm : String}
    (h : qualifyImport fuel e pkgName path = some (nm, e')) (hp : path ∉ e.imports.map (·.1)) :
    nm ≠ "err" ∧ e.inFileScope nm = false ∧ isKeyword nm = false ∧
      e'.imports = e.imports ++ [(path, nm)] ∧ e'.values = e.values ∧ e'.fileScope = e.fileScope := by
  rcases qualifyImport_some h with ⟨hm, _⟩ | ⟨_, hd, rfl⟩
  · exact absurd (List.mem_map_of_mem (f := (·.1)) hm) hp
  · obtain ⟨hc, hk, _⟩ := disambiguate_some hd
    simp only [Bool.or_eq_false_iff, beq_eq_false_iff_ne] at hc
    exact ⟨hc.1, hc.2, hk, rfl, rfl, rfl⟩

theorem valueVarName_fresh {fuel : Nat} {e e' : NameEnv} {shape : TyShape} {nm : String}
    (h : valueVarName fuel e shape = some (nm, e')) :
    e.inFileScope nm = false ∧ isKeyword nm = false ∧
      e' = { e with values := e.values ++ [nm] } ∧ (e.values.Nodup → e'.values.Nodup) := by
  simp only [valueVarName] at h
  split at h
  · cases h
  · rename_i nm' ht
    cases h
    obtain ⟨hc, hk⟩ := typeVariableName_some ht
    exact ⟨hc, hk, rfl, fun hnd => nodup_concat.2 ⟨(inFileScope_false_parts hc).2.1, hnd⟩⟩

end WireP.NameProofs
