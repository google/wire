import WireP.Lemmas.SolveFinal
/-! # Every call's result variable is used (Go: no "declared and not used")

`Live` is a second invariant of the planner machine, carried next to `Inv`.  Its field `why` is the
idea: the machine only ever visits a type because an un-indexed frame below it asked for it.  At the
end the stack is empty, so the asker of a call's output type is indexed (`asked`; an asker that is
an interface bound to the type shares the variable and is asked for in turn); without errors it is
indexed by its own call, and by `callOf` that call takes the variable.

`missing_named_in_errs` (C06) and `solve_result_last` (C02) are here because they are read off `Live`;
the field `named` is a C06 fact that stands in `Live` because the fields of `Inv` are fixed. -/
namespace WireP.Solve
open WireV

/-- a non-given type the machine has touched -/
def Known (given : List Ty) (s : SvSt) (x : Ty) : Prop :=
  x ∉ given ∧ ((look x s.index).isSome ∨ x ∈ s.stk.map (·.t))

structure Live (pm : PMap) (given : List Ty) (out : Ty) (s : SvSt) : Prop where
  idxLt : ∀ u n, look u s.index = some (some n) → n < given.length + s.calls.length
  callOf : ∀ u n pt, look u s.index = some (some n) → u ∉ given → look u pm = some pt → pt.t = u →
    ∃ q c, n = given.length + q ∧ s.calls[q]? = some c ∧ c.out = u ∧
      ∀ d ∈ depsOf pt.src, ∃ m ∈ c.args, m < n ∧ look d s.index = some (some m)
  -- sharper than `Inv.abortErr` with `Inv.noProvIdx`, which only say that some error exists
  named : ∀ u, look u pm = none → (look u s.index).isSome →
    u ∈ given ∨ ∃ up, Err.noProvider u up ∈ s.errs
  why : ∀ x, Known given s x → x = out ∨ ∃ w, dep pm w x ∧ Known given s w

theorem Live.init (pm : PMap) (given : List Ty) (out : Ty) : Live pm given out (svInit given out) where
  idxLt := by
    intro u n h
    obtain ⟨i, hi, hgi⟩ := init_mem (look_mem h)
    cases hi
    have := (List.getElem?_eq_some_iff.mp hgi).1
    omega
  callOf := by
    intro u n pt h hng
    exact absurd (init_isSome.mp (Option.isSome_of_eq_some h)) hng
  named := fun _ _ h => .inl (init_isSome.mp h)
  why := by
    intro x ⟨hng, hx⟩
    rcases hx with hx | hx
    · exact absurd (init_isSome.mp hx) hng
    · exact .inl (by simpa [svInit] using hx)

section
variable {pm : PMap} {sm : SMap} {given : List Ty} {out : Ty} {s s' : SvSt}

theorem why_of_iff (h : ∀ x, Known given s' x ↔ Known given s x)
    (hw : ∀ x, Known given s x → x = out ∨ ∃ w, dep pm w x ∧ Known given s w) :
    ∀ x, Known given s' x → x = out ∨ ∃ w, dep pm w x ∧ Known given s' w :=
  fun x hx => (hw x ((h x).mp hx)).imp_right fun ⟨w, hd, hk⟩ => ⟨w, hd, (h w).mpr hk⟩

theorem why_push {l : List Ty} (hi : s'.index = s.index)
    (hk : s'.stk.map (·.t) = l ++ s.stk.map (·.t))
    (hl : ∀ a ∈ l, ∃ w, dep pm w a ∧ Known given s w)
    (hw : ∀ x, Known given s x → x = out ∨ ∃ w, dep pm w x ∧ Known given s w) :
    ∀ x, Known given s' x → x = out ∨ ∃ w, dep pm w x ∧ Known given s' w := by
  have hmono : ∀ w, Known given s w → Known given s' w := fun w hw =>
    ⟨hw.1, hw.2.imp (hi ▸ id) fun h => hk ▸ List.mem_append_right _ h⟩
  have hold : ∀ x, Known given s x → x = out ∨ ∃ w, dep pm w x ∧ Known given s' w :=
    fun x hx => (hw x hx).imp_right fun ⟨w, hd, hk⟩ => ⟨w, hd, hmono w hk⟩
  intro x ⟨hng, hx⟩
  rw [hi, hk, List.mem_append] at hx
  rcases hx with hx | hx | hx
  · exact hold x ⟨hng, .inl hx⟩
  · obtain ⟨w, hd, hk⟩ := hl x hx
    exact .inr ⟨w, hd, hmono w hk⟩
  · exact hold x ⟨hng, .inr hx⟩

theorem Live.step (hag : ArgsGiven pm given) (hI : Inv pm sm given out s)
    (hL : Live pm given out s) (h : Step pm sm given.length s s') : Live pm given out s' := by
  cases h with
  | pop curr rest i hs hli =>
    -- the type of the dropped frame stays touched: it is indexed
    refine { hL with why := why_of_iff (fun x => ?_) hL.why }
    simp only [Known, hs, List.map_cons, List.mem_cons]
    refine and_congr_right fun _ => ⟨fun h => h.imp_right .inr, fun h => ?_⟩
    rcases h with h | rfl | h
    · exact .inl h
    · exact .inl (Option.isSome_of_eq_some hli)
    · exact .inr h
  | argPop curr rest pt i hs hli hlp hb hsrc =>
    exact absurd (hag curr.t pt i hlp hb hsrc) (hI.not_given hli)
  | push curr rest hs hli hm =>
    refine { hL with why := (why_push (s := s) (l := missingOf s.index (kids pm curr.t)) rfl
      (by simp [hs, List.map_map, Function.comp_def]) (fun a ha => ?_) hL.why) }
    exact ⟨curr.t, mem_kids.mp (missing_sub ha).1, hI.not_given hli, .inr (by simp [hs])⟩
  | add curr rest v used' errs' calls' hs hli hm hfl =>
    obtain ⟨⟨le, hle⟩, ⟨lc, hlc⟩, -⟩ := hfl.mono
    refine
      { idxLt := fun u n hu => ?idxLt
        callOf := fun u n pt hu hng hlp hb => ?callOf
        named := fun u hlp hu => ?named
        why := why_of_iff (fun x => ?why) hL.why }
    case idxLt =>
      have hold : ∀ u n, look u s.index = some (some n) → n < given.length + calls'.length :=
        fun u n h => by have := hL.idxLt u n h; simp only [hlc, List.length_append]; omega
      rcases (look_cons_fresh hli).mp hu with ⟨rfl, rfl⟩ | hu
      · cases hfl with
        | bind pt _ _ _ h => exact hold _ _ h
        | call => simp
      · exact hold u n hu
    case callOf =>
      rcases (look_cons_fresh hli).mp hu with ⟨rfl, rfl⟩ | hu
      · cases hfl with
        | bind pt' _ hlp' hb' => rw [hlp] at hlp'; cases hlp'; exact absurd hb hb'
        | call pt' c hlp' _ _ hout hlen hargs =>
          rw [hlp] at hlp'; cases hlp'
          refine ⟨_, c, rfl, by simp, hout, fun d hd => ?_⟩
          -- the argument at the position of `d` is its index entry, an existing variable
          obtain ⟨j, hj, rfl⟩ := List.getElem_of_mem hd
          have ha := hargs j _ _ (List.getElem?_eq_getElem (hlen ▸ hj)) (List.getElem?_eq_getElem hj)
          exact ⟨_, List.getElem_mem _, hL.idxLt _ _ ha, look_keep hli ha⟩
      · obtain ⟨q, c, hn, hc, hco, hargs⟩ := hL.callOf u n pt hu hng hlp hb
        refine ⟨q, c, hn, ?_, hco, fun d hd => ?_⟩
        · rw [hlc, List.getElem?_append_left (List.getElem?_eq_some_iff.mp hc).1, hc]
        · obtain ⟨m, hm, hlt, hdm⟩ := hargs d hd
          exact ⟨m, hm, hlt, look_keep hli hdm⟩
    case named =>
      rcases look_cons_isSome.mp hu with rfl | hu
      · cases hfl with
        | noProv => exact .inr ⟨curr.up, by simp⟩
        | bind pt _ h | abort pt _ h | call pt _ h => cases hlp.symm.trans h
      · exact (hL.named u hlp hu).imp_right fun ⟨up, h⟩ => ⟨up, hle ▸ List.mem_append_left _ h⟩
    case why =>
      simp only [Known, hs, List.map_cons, List.mem_cons, look_cons_isSome]
      exact and_congr_right fun _ => or_assoc.trans or_left_comm

end

/-- `ArgsGiven` is for `Live.step`, where it rules out the `argPop` step -/
theorem Live.final {pm : PMap} (sm : SMap) {given : List Ty} (hcc : ConcClosed pm)
    (hag : ArgsGiven pm given) (hnd : given.Nodup) (out : Ty) :
    Inv pm sm given out (final pm sm given out) ∧ Live pm given out (final pm sm given out) :=
  svIter_induct (fun s => Inv pm sm given out s ∧ Live pm given out s)
    (fun _ _ hi hs => ⟨hi.1.step hcc hs, hi.2.step hag hi.1 hs⟩) _ _
    ⟨Inv.init pm sm hnd out, Live.init pm given out⟩

section
variable {pm : PMap} {sm : SMap} {given : List Ty} {out : Ty} {s : SvSt}

theorem Known.indexed (hs : s.stk = []) {x : Ty} (h : Known given s x) : (look x s.index).isSome :=
  h.2.resolve_right (by rw [hs]; nofun)

theorem asked (hcc : ConcClosed pm) (hI : Inv pm sm given out s) (hL : Live pm given out s)
    (hs : s.stk = []) {x : Ty} {v : Idx} (hx : Known given s x) (hv : look x s.index = some v) :
    look out s.index = some v ∨ ∃ w pt d, Known given s w ∧ look w pm = some pt ∧ pt.t = w ∧
      d ∈ depsOf pt.src ∧ look d s.index = some v := by
  rcases hL.why x hx with rfl | ⟨w, ⟨pt, hlp, hd⟩, hw⟩
  · exact .inl hv
  rcases hd with ⟨hb, rfl⟩ | ⟨hb, hmem⟩
  · have hwv : look w s.index = some v := by
      rw [hI.bindIdx w pt hlp hb hw.1 (hw.indexed hs)]; exact hv
    rcases hL.why w hw with rfl | ⟨w', ⟨pt', hlp', hd'⟩, hw'⟩
    · exact .inl hwv
    rcases hd' with ⟨hb', rfl⟩ | ⟨hb', hmem'⟩
    · -- a binding to a binding key is excluded by `ConcClosed`
      have := hcc w' pt' hlp'
      rw [hlp] at this
      cases this
      exact absurd rfl hb
    · exact .inr ⟨w', pt', w, hw', hlp', hb', hmem', hwv⟩
  · exact .inr ⟨w, pt, x, hw, hlp, hb, hmem, hv⟩

theorem every_call_used (hH : H pm given) (he : (final pm sm given out).errs = []) :
    ∀ (p : Nat) (c : Call), (final pm sm given out).calls[p]? = some c →
      (∃ (q : Nat) (c' : Call), p < q ∧ (final pm sm given out).calls[q]? = some c' ∧
        (given.length + p) ∈ c'.args) ∨
      look out (final pm sm given out).index = some (some (given.length + p)) := by
  intro p c hpc
  obtain ⟨hI, hL⟩ := Live.final sm hH.concClosed hH.argsGiven hH.givenNodup out
  have hs : (final pm sm given out).stk = [] := solve_terminates hH
  have hidx := hI.callIdx p c hpc
  rcases asked hH.concClosed hI hL hs
      ⟨call_not_given hI hpc, .inl (Option.isSome_of_eq_some hidx)⟩ hidx with
    h | ⟨w, pt, d, hw, hlp, hb, hd, hdv⟩
  · exact .inr h
  · -- the asker is indexed by its own call, which takes the variables of its dependencies
    obtain ⟨n, hn⟩ := hI.idx_var he (hw.indexed hs)
    obtain ⟨q, c', rfl, hc', -, hargs⟩ := hL.callOf w n pt hn hw.1 hlp hb
    obtain ⟨m, hm, hlt, hdm⟩ := hargs d hd
    rw [hdv] at hdm
    cases hdm
    exact .inl ⟨q, c', by omega, hc', hm⟩

theorem last_call_returned (hH : H pm given) (he : (final pm sm given out).errs = [])
    (hc : (final pm sm given out).calls ≠ []) :
    look out (final pm sm given out).index =
      some (some (given.length + ((final pm sm given out).calls.length - 1))) := by
  have hpos : 0 < (final pm sm given out).calls.length := List.length_pos_iff.mpr hc
  have hlt : (final pm sm given out).calls.length - 1 < (final pm sm given out).calls.length := by
    omega
  rcases every_call_used hH he _ _ (List.getElem?_eq_getElem hlt) with ⟨q, c', hq, hc', _⟩ | h
  · have := (List.getElem?_eq_some_iff.mp hc').1
    omega
  · exact h

theorem solve_result_last (hH : H pm given) (hc : (final pm sm given out).calls ≠ [])
    (he : (final pm sm given out).errs = []) :
    ((final pm sm given out).calls.getLast?).map (·.out) = some (resolveTy pm out) := by
  obtain ⟨hI, hL⟩ := Live.final sm hH.concClosed hH.argsGiven hH.givenNodup out
  have hidx := last_call_returned hH he hc
  have hng := hI.not_given_of_var hidx (Nat.le_add_right _ _)
  -- a concrete key with the request's variable is the output of the last call
  have conc : ∀ u pt, look u (final pm sm given out).index = look out (final pm sm given out).index →
      look u pm = some pt → pt.t = u →
      ((final pm sm given out).calls.getLast?).map (·.out) = some u := fun u pt hu hlp hb => by
    have hu := hu.trans hidx
    obtain ⟨q, c, hq, hc, hco, -⟩ :=
      hL.callOf u _ pt hu (hI.not_given_of_var hu (Nat.le_add_right _ _)) hlp hb
    rw [List.getLast?_eq_getElem?, Nat.add_left_cancel hq, hc, Option.map_some, hco]
  cases hlp : look out pm with
  | none => rw [hI.noProvIdx out (Option.isSome_of_eq_some hidx) hng hlp] at hidx; cases hidx
  | some pt =>
    rw [resolveTy_some hlp]
    by_cases hb : pt.t = out
    · rw [hb]; exact conc out pt rfl hlp hb
    · exact conc pt.t pt (hI.bindIdx out pt hlp hb hng (Option.isSome_of_eq_some hidx)).symm
        (hH.concClosed out pt hlp) rfl

theorem missing_named_in_errs (hH : H pm given) (hl : GivenLeaf pm given) {t : Ty}
    (hlp : look t pm = none) (hng : t ∉ given) (hr : Reach pm out t) :
    ∃ up, Err.noProvider t up ∈ (final pm sm given out).errs :=
  ((Live.final sm hH.concClosed hH.argsGiven hH.givenNodup out).2.named t hlp
    (final_indexed hH hl hr)).resolve_left hng

end

end WireP.Solve
