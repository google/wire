import WireP.Lemmas.PipelineSets
import WireP.Lemmas.PipelineDefs
import WireP.Lemmas.SolveStep
import WireP.Lemmas.PMapPerm
/-! The plan does not depend on declaration order (C10 for `planLast`).  `svStep`, `acStep` read the maps
only through `look`, and the two fuels are sums over the association list; so two maps with distinct keys
that are permutations of each other yield the same detector run and the same planner run.  When every set
lists its items in another order (`SetPerm`), the maps of the accepted sets are such permutations of each
other (`ResRel`). -/
namespace WireP.PipelineProofs
open WireV WireP.Pipeline WireP.C05 WireP.C10 WireP.Solve

theorem svStep_congr {pm pm' : PMap} {sm sm' : SMap} (hpm : ∀ t, look t pm = look t pm')
    (hsm : ∀ t, look t sm = look t sm') (ng : Nat) (s : SvSt) :
    svStep pm sm ng s = svStep pm' sm' ng s := by
  unfold svStep
  simp only [hpm, hsm]

theorem svFuel_perm {pm pm' : PMap} (hp : pm.Perm pm') : svFuel pm = svFuel pm' := by
  unfold svFuel
  rw [(hp.map _).sum_nat]

/-- `Perm` and not, as for `svStep_congr`, equal lookups: the fuel `svFuel` is a sum over the list. -/
theorem final_congr {pm pm' : PMap} {sm sm' : SMap} (hnd : (pm.map (·.1)).Nodup) (hp : pm.Perm pm')
    (hsm : ∀ t, look t sm = look t sm') (given : List Ty) (out : Ty) :
    final pm sm given out = final pm' sm' given out := by
  unfold final
  rw [svFuel_perm hp, svIter_eq, svIter_eq, funext (svStep_congr (look_perm hnd hp) hsm _)]

theorem succOf_congr {pm pm' : PMap} (hpm : ∀ t, look t pm = look t pm') :
    succOf pm = succOf pm' := by
  funext t
  unfold succOf
  rw [hpm]

theorem rootsOf_congr {pm pm' : PMap} (hpm : ∀ t, look t pm = look t pm') (order : List Ty) :
    rootsOf order pm = rootsOf order pm' := by
  unfold rootsOf
  simp only [hpm]

theorem acFuel_perm {pm pm' : PMap} (hnd : (pm.map (·.1)).Nodup) (hp : pm.Perm pm') (roots : List Ty) :
    acFuel pm roots = acFuel pm' roots := by
  unfold acFuel
  rw [succOf_congr (look_perm hnd hp), (hp.map _).sum_nat]

theorem verifyAcyclic_perm {pm pm' : PMap} (hnd : (pm.map (·.1)).Nodup) (hp : pm.Perm pm')
    (roots : List Ty) : verifyAcyclic pm roots = verifyAcyclic pm' roots := by
  unfold verifyAcyclic
  rw [acFuel_perm hnd hp, succOf_congr (look_perm hnd hp)]

theorem checkAcyclic_perm {pm pm' : PMap} (hnd : (pm.map (·.1)).Nodup) (hp : pm.Perm pm')
    (order : List Ty) : checkAcyclic order pm = checkAcyclic order pm' := by
  unfold checkAcyclic
  rw [rootsOf_congr (look_perm hnd hp), verifyAcyclic_perm hnd hp]

/-- Two results of `procSet` that agree up to the enumeration order of the maps and up to the wording of
    the errors.  The provider maps have to be permutations of each other, not just equal as functions:
    `buildProviderMap` (`bpm_perm`) and the two fuels read them as lists. -/
inductive ResRel : SetRes → SetRes → Prop
  | ok {pm pm' : PMap} {sm sm' : SMap} : (pm.map (·.1)).Nodup → pm.Perm pm' →
      (∀ t, look t sm = look t sm') → ResRel (.ok pm sm) (.ok pm' sm')
  | err {es es' : List Err} : ResRel (.err es) (.err es')

def ResEq (r r' : Nat × SetRes) : Prop := r.1 = r'.1 ∧ ResRel r.2 r'.2

theorem forall₂_append {α β : Type} {R : α → β → Prop} {a : List α} {a' : List β} {b : List α}
    {b' : List β} (h1 : List.Forall₂ R a a') (h2 : List.Forall₂ R b b') :
    List.Forall₂ R (a ++ b) (a' ++ b') := by
  induction h1 with
  | nil => exact h2
  | cons h _ ih => exact .cons h ih

theorem forall₂_length {α β : Type} {R : α → β → Prop} {a : List α} {a' : List β}
    (h : List.Forall₂ R a a') : a.length = a'.length := by
  induction h with
  | nil => rfl
  | cons _ _ ih => simp [ih]

theorem forall₂_getElem? {α β : Type} {R : α → β → Prop} {a : List α} {a' : List β}
    (h : List.Forall₂ R a a') (i : Nat) :
    (a[i]? = none ∧ a'[i]? = none) ∨ ∃ x y, a[i]? = some x ∧ a'[i]? = some y ∧ R x y := by
  induction h generalizing i with
  | nil => exact Or.inl ⟨rfl, rfl⟩
  | cons hxy _ ih =>
    cases i with
    | zero => exact Or.inr ⟨_, _, rfl, rfl, hxy⟩
    | succ i => exact ih i

theorem forall₂_getLast? {α β : Type} {R : α → β → Prop} {a : List α} {a' : List β}
    (h : List.Forall₂ R a a') :
    (a.getLast? = none ∧ a'.getLast? = none) ∨
      ∃ x y, a.getLast? = some x ∧ a'.getLast? = some y ∧ R x y := by
  rw [List.getLast?_eq_getElem?, List.getLast?_eq_getElem?, ← forall₂_length h]
  exact forall₂_getElem? h _

theorem forall₂_flip {α β : Type} {R : α → β → Prop} {a : List α} {a' : List β}
    (h : List.Forall₂ R a a') : List.Forall₂ (fun y x => R x y) a' a := by
  induction h with
  | nil => exact .nil
  | cons h _ ih => exact .cons h ih

theorem forall₂_refl {α : Type} {R : α → α → Prop} (hr : ∀ x, R x x) (a : List α) :
    List.Forall₂ R a a := by
  induction a with
  | nil => exact .nil
  | cons x a ih => exact .cons (hr x) ih

section
variable {done done' : List (Nat × SetRes)} (h : List.Forall₂ ResEq done done')
include h

theorem failOf_rel (i : Nat) : failOf done[i]? = failOf done'[i]? := by
  rcases forall₂_getElem? h i with ⟨h1, h2⟩ | ⟨⟨id, r⟩, ⟨id', r'⟩, h1, h2, hid, hr⟩ <;> rw [h1, h2]
  cases hid
  cases hr <;> rfl

theorem goodOf_rel (i : Nat) :
    (goodOf done[i]? = none ∧ goodOf done'[i]? = none) ∨
      ∃ a b, goodOf done[i]? = some a ∧ goodOf done'[i]? = some b ∧ a.1 = b.1 ∧ a.2.Perm b.2 := by
  rcases forall₂_getElem? h i with ⟨h1, h2⟩ | ⟨⟨id, r⟩, ⟨id', r'⟩, h1, h2, hid, hr⟩ <;> rw [h1, h2]
  · exact Or.inl ⟨rfl, rfl⟩
  · cases hid
    cases hr with
    | ok _ hp _ => exact Or.inr ⟨_, _, rfl, rfl, rfl, hp⟩
    | err => exact Or.inl ⟨rfl, rfl⟩

theorem good_list_rel (is : List Nat) :
    ImportsEach (is.filterMap fun i => goodOf done[i]?) (is.filterMap fun i => goodOf done'[i]?) := by
  induction is with
  | nil => exact .nil
  | cons i is ih =>
    simp only [List.filterMap_cons]
    rcases goodOf_rel h i with ⟨h1, h2⟩ | ⟨a, b, h1, h2, hid, hp⟩ <;> rw [h1, h2]
    · exact ih
    · exact .cons hid hp ih

theorem importsOf_rel {d d' : SetDef} (hi : d.imports = d'.imports) :
    (∃ es, importsOf done d = .error es ∧ importsOf done' d' = .error es) ∨
      ∃ m m', importsOf done d = .ok m ∧ importsOf done' d' = .ok m' ∧ ImportsEach m m' := by
  rw [importsOf_eq, importsOf_eq, ← hi]
  simp only [List.filterMap_map, Function.comp_def, ← failOf_rel h]
  split
  · exact Or.inl ⟨_, rfl, rfl⟩
  · exact Or.inr ⟨_, _, rfl, rfl, good_list_rel h _⟩

theorem impIdsOf_rel {d d' : SetDef} (hi : d.imports = d'.imports) :
    impIdsOf done d = impIdsOf done' d' := by
  have (i : Nat) : (done[i]?).map (·.1) = (done'[i]?).map (·.1) := by
    rcases forall₂_getElem? h i with ⟨h1, h2⟩ | ⟨x, y, h1, h2, hid, -⟩ <;> rw [h1, h2]
    exact congrArg some hid
  simp only [impIdsOf, ← hi, this]

end

theorem procSet_rel {order : List Ty} {done done' : List (Nat × SetRes)}
    (h : List.Forall₂ ResEq done done') {d d' : SetDef} (hp : SetPerm d d')
    (hnc : NoChainedBind d.bnds) :
    ResRel (procSet order done d) (procSet order done' d') := by
  rcases importsOf_rel h hp.imports with ⟨es, h1, h2⟩ | ⟨m, m', h1, h2, hm⟩
  · rw [procSet_imports_error h1, procSet_imports_error h2]; exact .err
  obtain ⟨id', args', imps', provs', vals', flds', bnds'⟩ := d'
  obtain ⟨-, rfl, -, hpv, hvv, hfv, hbv⟩ := hp
  have hperm := PMapProofs.bpm_perm (args := d.args) ⟨m, .refl _, hm⟩ hpv hvv hfv hbv hnc
  cases hb : buildProviderMap d.args m d.provs d.vals d.flds d.bnds with
  | error es =>
    cases hb' : buildProviderMap d.args m' provs' vals' flds' bnds' with
    | error es' => rw [procSet_bpm_error h1 hb, procSet_bpm_error h2 hb']; exact .err
    | ok r' => obtain ⟨r, hr⟩ := hperm.1.mpr ⟨r', hb'⟩; rw [hb] at hr; cases hr
  | ok r =>
    obtain ⟨pm, sm⟩ := r
    obtain ⟨⟨pm', sm'⟩, hb'⟩ := hperm.1.mp ⟨_, hb⟩
    have hlook := hperm.2 pm sm pm' sm' hb hb'
    have hnd := (PMapProofs.bpm_ok_lookup hb).pm_nodup
    have hpp : pm.Perm pm' :=
      (perm_iff_look hnd (PMapProofs.bpm_ok_lookup hb').pm_nodup).mpr fun t => (hlook t).1
    rw [procSet_bpm_ok h1 hb, procSet_bpm_ok h2 hb', ← checkAcyclic_perm hnd hpp]
    split
    · exact .ok hnd hpp fun t => (hlook t).2
    · exact .err

theorem procSets_rel {order : List Ty} {ds ds' : List SetDef} (h : List.Forall₂ SetPerm ds ds')
    (hnc : ∀ d ∈ ds, NoChainedBind d.bnds) :
    List.Forall₂ ResEq (procSets order ds) (procSets order ds') := by
  -- `procSets` is a left fold: generalise its accumulator
  suffices ∀ {done done' : List (Nat × SetRes)}, List.Forall₂ ResEq done done' →
      List.Forall₂ ResEq (ds.foldl (fun done d => done ++ [(d.id, procSet order done d)]) done)
        (ds'.foldl (fun done d => done ++ [(d.id, procSet order done d)]) done') from this .nil
  induction h with
  | nil => exact id
  | @cons d d' ds ds' hp _ ih =>
    intro done done' hd
    exact ih (fun x hx => hnc x (List.mem_cons_of_mem _ hx)) (forall₂_append hd
      (.cons ⟨hp.id, procSet_rel hd hp (hnc d List.mem_cons_self)⟩ .nil))

theorem verifyArgsUsed_perm_nil {d d' : SetDef} (hp : SetPerm d d') (impIds : List Nat)
    (used : List SrcId) :
    verifyArgsUsed d impIds used = [] ↔ verifyArgsUsed d' impIds used = [] := by
  simp only [verifyArgsUsed_nil_iff, hp.provs.mem_iff, hp.vals.mem_iff, hp.bnds.mem_iff,
    hp.flds.mem_iff]

/-- `SolveOut` has one more constructor, so `.errs` on one side faces `.errs` on the other.  The error
    lists are not compared: they may be permuted. -/
theorem planLast_perm_verdict {order : List Ty} {ds ds' : List SetDef} {out : Ty}
    (h : List.Forall₂ SetPerm ds ds') (hnc : ∀ d ∈ ds, NoChainedBind d.bnds) :
    (∀ calls, planLast order ds out = .ok calls ↔ planLast order ds' out = .ok calls) ∧
      (planLast order ds out = .stuck ↔ planLast order ds' out = .stuck) := by
  have hrel := procSets_rel (order := order) h hnc
  rcases forall₂_getLast? h with ⟨hn, hn'⟩ | ⟨d, d', hd, hd', hp⟩
  · rw [List.getLast?_eq_none_iff.mp hn, List.getLast?_eq_none_iff.mp hn']
    exact ⟨fun _ => .rfl, .rfl⟩
  rcases forall₂_getLast? hrel with ⟨hn, -⟩ | ⟨⟨id, r⟩, ⟨id', r'⟩, hr, hr', -, hrr⟩
  · rw [procSets_getLast hd] at hn; cases hn
  cases hrr with
  | ok hnd hpp hsm =>
    rw [planLast_of_ok hd hr, planLast_of_ok hd' hr', ← impIdsOf_rel hrel hp.imports, ← hp.args]
    refine ⟨fun calls => ?_, ?_⟩
    · rw [solve_ok_iff, solve_ok_iff, ← final_congr hnd hpp hsm, verifyArgsUsed_perm_nil hp]
    · rw [solve_stuck_iff, solve_stuck_iff, ← final_congr hnd hpp hsm]
  | err =>
    rw [planLast_of_err hd (procSets_last_eq hd hr).2, planLast_of_err hd' (procSets_last_eq hd' hr').2]
    exact ⟨fun _ => ⟨nofun, nofun⟩, nofun, nofun⟩

theorem planLast_perm {order : List Ty} {ds ds' : List SetDef} {out : Ty}
    (h : List.Forall₂ SetPerm ds ds') (hnc : ∀ d ∈ ds, NoChainedBind d.bnds) (calls : List Call) :
    planLast order ds out = .ok calls ↔ planLast order ds' out = .ok calls :=
  (planLast_perm_verdict h hnc).1 calls

end WireP.PipelineProofs
