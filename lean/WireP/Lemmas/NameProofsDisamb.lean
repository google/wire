import WireV.Names
import Std.Data.String.ToNat
/-! # `disambiguate`, `typeVariableName` (C14)

The loop of `disambiguate` is a search for the first free name among the numbered candidates
`base ++ toString n`.  These are pairwise distinct and never keywords, so the search can only fail
when every one of its `fuel` candidates collides: more fuel than colliding names is enough. -/
namespace WireP.NameProofs
open WireV

theorem cand_inj (base : String) {m n : Nat} (h : base ++ toString m = base ++ toString n) : m = n :=
  Nat.repr_injective ((String.append_right_inj base).1 h)

theorem endsInDigit_cand (base : String) (n : Nat) : endsInDigit (base ++ toString n) = true := by
  have hne : Nat.toDigits 10 n ≠ [] := Nat.toDigits_ne_nil
  have hrepr : (toString n).toList = Nat.toDigits 10 n := Nat.toList_repr
  simp only [endsInDigit, String.toList_append, hrepr, List.getLast?_append]
  rw [List.getLast?_eq_some_getLast hne]
  simp only [Option.some_or]
  exact Nat.isDigit_of_mem_toDigits (by omega) (by omega) (List.getLast_mem hne)

theorem isKeyword_mem {s : String} (h : isKeyword s = true) : s ∈ goKeywords := by
  simpa [isKeyword] using h

theorem keyword_not_endsInDigit : ∀ k ∈ goKeywords, endsInDigit k = false := by decide +kernel

theorem cand_not_keyword (base : String) (n : Nat) : isKeyword (base ++ toString n) = false := by
  cases h : isKeyword (base ++ toString n) with
  | false => rfl
  | true =>
    have := keyword_not_endsInDigit _ (isKeyword_mem h)
    rw [endsInDigit_cand] at this
    cases this

theorem disambLoop_eq_find (collides : String → Bool) (base : String) : ∀ fuel n : Nat,
    disambLoop collides base fuel n =
      ((List.range' n fuel).find? (fun m => !collides (base ++ toString m))).map (base ++ toString ·)
  | 0, _ => rfl
  | fuel + 1, n => by
    simp only [disambLoop, cand_not_keyword, Bool.not_false, Bool.true_and, List.range'_succ,
      List.find?_cons]
    cases collides (base ++ toString n)
    · rfl
    · exact disambLoop_eq_find collides base fuel (n + 1)

theorem disambLoop_some {collides : String → Bool} {base : String} {fuel n : Nat} {r : String}
    (h : disambLoop collides base fuel n = some r) :
    collides r = false ∧ ∃ m, n ≤ m ∧ m < n + fuel ∧ r = base ++ toString m ∧
      ∀ k, n ≤ k → k < m → collides (base ++ toString k) = true := by
  rw [disambLoop_eq_find, Option.map_eq_some_iff] at h
  obtain ⟨m, hm, rfl⟩ := h
  obtain ⟨h1, h2, h3⟩ := List.find?_range'_eq_some.1 hm
  rw [List.mem_range'_1] at h2
  exact ⟨by simpa using h1, m, h2.1, h2.2, rfl, by simpa using h3⟩

theorem disambLoop_isSome {collides : String → Bool} {taken : List String}
    (ht : ∀ s, collides s = true → s ∈ taken) (base : String) {fuel : Nat} (n : Nat)
    (hf : taken.length < fuel) : ∃ r, disambLoop collides base fuel n = some r := by
  cases h : disambLoop collides base fuel n with
  | some r => exact ⟨r, rfl⟩
  | none =>
    exfalso
    rw [disambLoop_eq_find, Option.map_eq_none_iff, List.find?_range'_eq_none] at h
    -- the `fuel` candidates are pairwise distinct and all of them are in `taken`
    have hnd : ((List.range' n fuel).map (base ++ toString ·)).Nodup :=
      List.pairwise_map.2 ((List.nodup_range' (s := n) (n := fuel) 1).imp
        (fun hab hc => hab (cand_inj base hc)))
    have hsub : (List.range' n fuel).map (base ++ toString ·) ⊆ taken := by
      intro s hs
      obtain ⟨m, hm, rfl⟩ := List.mem_map.1 hs
      rw [List.mem_range'_1] at hm
      exact ht _ (by simpa using h m hm.1 hm.2)
    have := hnd.length_le_of_subset hsub
    simp only [List.length_map, List.length_range'] at this
    omega

def baseOf (name : String) : String := if endsInDigit name then name ++ "_" else name

theorem disambiguate_eq (fuel : Nat) (name : String) (collides : String → Bool) :
    disambiguate fuel name collides =
      if (isKeyword name || collides name) = true then disambLoop collides (baseOf name) fuel 2
      else some name := by
  simp only [disambiguate, baseOf]
  cases isKeyword name <;> cases collides name <;> rfl

theorem disambiguate_some {fuel : Nat} {name : String} {collides : String → Bool} {r : String}
    (h : disambiguate fuel name collides = some r) :
    collides r = false ∧ isKeyword r = false ∧
      ((r = name ∧ (isKeyword name || collides name) = false) ∨
       ((isKeyword name || collides name) = true ∧ ∃ n, 2 ≤ n ∧ n < 2 + fuel ∧
          r = baseOf name ++ toString n ∧
          ∀ k, 2 ≤ k → k < n → collides (baseOf name ++ toString k) = true)) := by
  rw [disambiguate_eq] at h
  split at h
  · rename_i hc
    obtain ⟨h1, m, hm⟩ := disambLoop_some h
    exact ⟨h1, hm.2.2.1 ▸ cand_not_keyword _ _, Or.inr ⟨hc, m, hm⟩⟩
  · rename_i hc
    cases h
    rw [Bool.not_eq_true, Bool.or_eq_false_iff] at hc
    exact ⟨hc.2, hc.1, Or.inl ⟨rfl, by simp [hc]⟩⟩

theorem disambiguate_ok {fuel : Nat} {name : String} {collides : String → Bool} {r : String}
    (h : disambiguate fuel name collides = some r) : collides r = false ∧ isKeyword r = false :=
  ⟨(disambiguate_some h).1, (disambiguate_some h).2.1⟩

theorem disambiguate_isSome {fuel : Nat} (name : String) {collides : String → Bool}
    {taken : List String} (ht : ∀ n, collides n = true → n ∈ taken) (hf : taken.length < fuel) :
    ∃ r, disambiguate fuel name collides = some r := by
  rw [disambiguate_eq]
  split
  · exact disambLoop_isSome ht _ 2 hf
  · exact ⟨_, rfl⟩

theorem disambiguate_fresh_sharp (fuel : Nat) (name : String) (collides : String → Bool)
    (taken : List String) (ht : ∀ n, collides n = true → n ∈ taken)
    (hf : taken.length + 1 ≤ fuel) :
    ∃ r, disambiguate fuel name collides = some r ∧ collides r = false ∧ isKeyword r = false ∧
      (r = name ∨ ∃ n, 2 ≤ n ∧
        r = (if endsInDigit name then name ++ "_" else name) ++ toString n) := by
  obtain ⟨r, hr⟩ := disambiguate_isSome name ht hf
  obtain ⟨h1, h2, h3⟩ := disambiguate_some hr
  exact ⟨r, hr, h1, h2, h3.imp (·.1) fun ⟨_, n, hn, _, hn', _⟩ => ⟨n, hn, hn'⟩⟩

theorem goKeywords_length : goKeywords.length = 25 := by decide

/-- the bound also budgets one attempt per keyword, which is slack (`cand_not_keyword`); the totality
    statements of `WireP.C14` are given in this form, and the driver's `nameFuel` (`|taken| + 40`)
    meets it -/
theorem disambiguate_fresh (fuel : Nat) (name : String) (collides : String → Bool)
    (taken : List String) (ht : ∀ n, collides n = true → n ∈ taken)
    (hf : taken.length + goKeywords.length + 1 ≤ fuel) :
    ∃ r, disambiguate fuel name collides = some r ∧ collides r = false ∧ isKeyword r = false ∧
      (r = name ∨ ∃ n, 2 ≤ n ∧
        r = (if endsInDigit name then name ++ "_" else name) ++ toString n) :=
  disambiguate_fresh_sharp fuel name collides taken ht (by omega)

theorem typeVariableName_some {fuel : Nat} {shape : TyShape} {dflt : String}
    {transform : String → String} {collides : String → Bool} {r : String}
    (h : typeVariableName fuel shape dflt transform collides = some r) :
    collides r = false ∧ isKeyword r = false := by
  simp only [typeVariableName] at h
  split at h
  · rename_i n hn
    cases h
    simpa [and_comm] using List.find?_some hn
  · exact disambiguate_ok h

theorem typeVariableName_isSome {fuel : Nat} (shape : TyShape) (dflt : String)
    (transform : String → String) {collides : String → Bool}
    {taken : List String} (ht : ∀ n, collides n = true → n ∈ taken) (hf : taken.length < fuel) :
    ∃ r, typeVariableName fuel shape dflt transform collides = some r := by
  simp only [typeVariableName]
  split
  · exact ⟨_, rfl⟩
  · exact disambiguate_isSome _ ht hf

end WireP.NameProofs
