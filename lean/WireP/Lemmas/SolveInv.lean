import WireP.Lemmas.SolveStep
/-! # The invariant of the planner machine

The safety half of the planner theorems.  `Inv` holds initially and is preserved by every step over
a `ConcClosed` map, so it holds of `final pm sm given out` (`Inv.final`).  No acyclicity is needed:
a run that the fuel `svFuel pm` cuts short ends in a state with `Inv` all the same. -/
namespace WireP.Solve
open WireV

structure Inv (pm : PMap) (sm : SMap) (given : List Ty) (out : Ty) (s : SvSt) : Prop where
  -- no proof uses this field
  idxND : (s.index.map (·.1)).Nodup
  -- given type `i` is the injector's parameter `i`; so an un-indexed type is not given
  givenIdx : ∀ (i : Nat) g, given[i]? = some g → look g s.index = some (some i)
  -- the machine only touches what `out` needs (C02 "only needed", and the `Reach` in C06, C08)
  stkReach : ∀ f ∈ s.stk, Reach pm out f.t
  idxReach : ∀ u, (look u s.index).isSome → u ∈ given ∨ Reach pm out u
  -- a type is indexed after its dependencies.  Not so for a given type, which `svInit` indexes
  -- without looking at its map entry: `GivenLeaf` closes the gap (`reach_indexed`)
  closed : ∀ t, (look t s.index).isSome → t ∉ given → ∀ u, dep pm t u → (look u s.index).isSome
  -- C06: every error is true (`errsNamed`); a needed type without entry carries the abort marker
  -- once indexed (`noProvIdx`), and where the marker is there is an error (`abortErr`)
  errsNamed : ∀ e ∈ s.errs, ∃ t up, e = Err.noProvider t up ∧ look t pm = none ∧ t ∉ given ∧
    Reach pm out t
  abortErr : ∀ u, look u s.index = some none → s.errs ≠ []
  noProvIdx : ∀ u, (look u s.index).isSome → u ∉ given → look u pm = none →
    look u s.index = some none
  -- C08, both directions.  `usedCompl` asks for a map entry because `svStep` records the source
  -- of a type only after it has found the type in `pm`
  usedSound : ∀ src ∈ s.used, ∃ t, Reach pm out t ∧ t ∉ given ∧ look t sm = some src
  usedCompl : ∀ t, (look t s.index).isSome → t ∉ given → (look t pm).isSome →
    ∀ src, look t sm = some src → src ∈ s.used
  -- C11: an interface binding gets the index entry of its concrete type, variable or abort marker
  bindIdx : ∀ k pt, look k pm = some pt → pt.t ≠ k → k ∉ given → (look k s.index).isSome →
    look k s.index = look pt.t s.index
  -- call `p` defines variable `given.length + p`, and is what `mkCall` makes of the map entry of
  -- its output type, a concrete key
  callIdx : ∀ (p : Nat) c, s.calls[p]? = some c →
    look c.out s.index = some (some (given.length + p))
  callPay : ∀ c ∈ s.calls, ∃ pt, look c.out pm = some pt ∧ pt.t = c.out ∧
    mkCall c.out pt.src c.args = some c ∧ c.args.length = (depsOf pt.src).length
  -- a variable holds the (resolved) type it is indexed for, and a call's arguments are earlier
  -- variables of the types it wants.  False for a given binding key (`pmA` in `SolveExample.lean`),
  -- hence `GivenSelf`: a premise of the two fields and not of `Inv`, because `Inv.final` serves
  -- theorems that do not assume it
  idxSound : GivenSelf pm given → ∀ u n, look u s.index = some (some n) →
    produced given s.calls n = some (resolveTy pm u)
  callArgs : GivenSelf pm given → ∀ (p : Nat) c pt, s.calls[p]? = some c →
    look c.out pm = some pt → ∀ (j : Nat) a d, c.args[j]? = some a →
      (depsOf pt.src)[j]? = some d →
      a < given.length + p ∧ produced given s.calls a = some (resolveTy pm d)

theorem init_keys (given : List Ty) (out : Ty) :
    (svInit given out).index.map (·.1) = given.reverse := by
  simp [svInit, List.map_reverse, Function.comp_def]

theorem init_mem {given : List Ty} {out : Ty} {u : Ty} {v : Idx}
    (h : (u, v) ∈ (svInit given out).index) : ∃ i, v = some i ∧ given[i]? = some u := by
  simp only [svInit, List.mem_reverse, List.mem_map] at h
  obtain ⟨⟨g, i⟩, hm, he⟩ := h
  cases he
  exact ⟨i, rfl, List.mem_zipIdx_iff_getElem?.mp hm⟩

theorem init_nodup {given : List Ty} (hnd : given.Nodup) (out : Ty) :
    ((svInit given out).index.map (·.1)).Nodup := by
  rw [init_keys]; exact (List.reverse_perm given).nodup_iff.mpr hnd

theorem init_isSome {given : List Ty} {out : Ty} {u : Ty} :
    (look u (svInit given out).index).isSome ↔ u ∈ given := by
  rw [look_isSome_iff, init_keys, List.mem_reverse]

theorem Inv.init (pm : PMap) (sm : SMap) {given : List Ty} (hnd : given.Nodup) (out : Ty) :
    Inv pm sm given out (svInit given out) where
  idxND := init_nodup hnd out
  givenIdx := fun i g h => look_of_mem_nodup (init_nodup hnd out) <| by
    simp only [svInit, List.mem_reverse, List.mem_map]
    exact ⟨(g, i), List.mem_zipIdx_iff_getElem?.mpr h, rfl⟩
  stkReach := by
    intro f hf
    simp [svInit] at hf
    subst hf
    exact Reach.refl _
  idxReach := fun u h => Or.inl (init_isSome.mp h)
  closed := fun t h hn => absurd (init_isSome.mp h) hn
  errsNamed := by intro e he; simp [svInit] at he
  abortErr := by
    intro u h
    obtain ⟨i, hi, _⟩ := init_mem (look_mem h)
    cases hi
  noProvIdx := fun u h hn => absurd (init_isSome.mp h) hn
  usedSound := by intro src h; simp [svInit] at h
  usedCompl := fun t h hn => absurd (init_isSome.mp h) hn
  bindIdx := fun k pt _ _ hn h => absurd (init_isSome.mp h) hn
  callIdx := by intro p c h; simp [svInit] at h
  callPay := by intro c h; simp [svInit] at h
  idxSound := by
    intro hg u n h
    obtain ⟨i, hi, hgi⟩ := init_mem (look_mem h)
    cases hi
    rw [hg u (List.mem_of_getElem? hgi)]
    exact produced_given hgi
  callArgs := by intro _ p c pt h; simp [svInit] at h

theorem Inv.idx_of_given {pm sm given out s} (hI : Inv pm sm given out s) {t : Ty} (hg : t ∈ given) :
    ∃ i, i < given.length ∧ look t s.index = some (some i) :=
  let ⟨i, hi⟩ := List.getElem?_of_mem hg
  ⟨i, (List.getElem?_eq_some_iff.mp hi).1, hI.givenIdx i t hi⟩

theorem Inv.not_given {pm sm given out s} (hI : Inv pm sm given out s) {t : Ty}
    (h : look t s.index = none) : t ∉ given := fun hg => by
  obtain ⟨i, -, hi⟩ := hI.idx_of_given hg
  cases h.symm.trans hi

theorem Inv.not_given_of_var {pm sm given out s} (hI : Inv pm sm given out s) {u : Ty} {n : Nat}
    (h : look u s.index = some (some n)) (hn : given.length ≤ n) : u ∉ given := fun hg => by
  obtain ⟨i, hlt, hi⟩ := hI.idx_of_given hg
  cases h.symm.trans hi
  exact absurd hlt (Nat.not_lt.mpr hn)

theorem Inv.idx_var {pm sm given out s} (hI : Inv pm sm given out s) (he : s.errs = []) {u : Ty}
    (h : (look u s.index).isSome) : ∃ n, look u s.index = some (some n) := by
  obtain ⟨i, hi⟩ := Option.isSome_iff_exists.mp h
  cases i with
  | none => exact absurd he (hI.abortErr u hi)
  | some n => exact ⟨n, hi⟩

section
variable {pm : PMap} {sm : SMap} {given : List Ty} {out : Ty} {s s' : SvSt}

theorem usedOf_sound (hI : Inv pm sm given out s) {curr : Frame} (hin : curr ∈ s.stk)
    (hfresh : look curr.t s.index = none) :
    ∀ src ∈ usedOf sm curr.t s.used, ∃ t, Reach pm out t ∧ t ∉ given ∧ look t sm = some src := by
  intro src hm
  rcases mem_usedOf.mp hm with h | h
  · exact hI.usedSound src h
  · exact ⟨curr.t, hI.stkReach curr hin, hI.not_given hfresh, h⟩

/-- a step that leaves index, calls and errors alone -/
theorem Inv.quiet (hI : Inv pm sm given out s) {stk' : List Frame} {used' : List SrcId}
    (hk : ∀ f ∈ stk', Reach pm out f.t)
    (hu : used' = s.used ∨ ∃ curr ∈ s.stk, look curr.t s.index = none ∧
      used' = usedOf sm curr.t s.used) :
    Inv pm sm given out { s with stk := stk', used := used' } :=
  { hI with
    stkReach := hk
    usedSound := by
      rcases hu with rfl | ⟨curr, hin, hfresh, rfl⟩
      · exact hI.usedSound
      · exact usedOf_sound hI hin hfresh
    usedCompl := fun t ht hng hlp src hsrc => by
      have := hI.usedCompl t ht hng hlp src hsrc
      rcases hu with rfl | ⟨_, _, _, rfl⟩
      · exact this
      · exact mem_usedOf.mpr (.inl this) }

theorem Inv.step (hcc : ConcClosed pm) (hI : Inv pm sm given out s)
    (h : Step pm sm given.length s s') : Inv pm sm given out s' := by
  cases h with
  | pop curr rest i hs hli =>
    exact hI.quiet (fun f hf => hI.stkReach f (hs ▸ List.mem_cons_of_mem _ hf)) (.inl rfl)
  | argPop curr rest pt i hs hli hlp hb hsrc =>
    exact hI.quiet (fun f hf => hI.stkReach f (hs ▸ List.mem_cons_of_mem _ hf))
      (.inr ⟨curr, hs ▸ List.mem_cons_self, hli, rfl⟩)
  | push curr rest hs hli hm =>
    have hin : curr ∈ s.stk := hs ▸ List.mem_cons_self
    refine hI.quiet (fun f hf => ?_) (.inr ⟨curr, hin, hli, rfl⟩)
    rcases List.mem_append.mp hf with hf | hf
    · obtain ⟨a, ha, rfl⟩ := List.mem_map.mp hf
      exact (hI.stkReach curr hin).snoc (mem_kids.mp (missing_sub ha).1)
    · exact hI.stkReach f (hs ▸ hf)
  | add curr rest v used' errs' calls' hs hli hm hfl =>
    have hin : curr ∈ s.stk := hs ▸ List.mem_cons_self
    have hng := hI.not_given hli
    have hr := hI.stkReach curr hin
    obtain ⟨⟨le, hle⟩, ⟨lc, hlc⟩, hmono⟩ := hfl.mono
    -- each field: for the new key by the flavour of the step, for an old key as before
    refine
      { idxND := List.nodup_cons.mpr ⟨look_eq_none_iff.mp hli, hI.idxND⟩
        givenIdx := fun i g hg => look_keep hli (hI.givenIdx i g hg)
        stkReach := fun f hf => hI.stkReach f (hs ▸ List.mem_cons_of_mem _ hf)
        idxReach := fun u hu => ?idxReach
        closed := fun t ht hng' u hd => isSome_keep ?closed
        errsNamed := fun e he => ?errsNamed
        abortErr := fun u hu => ?abortErr
        noProvIdx := fun u hu hng' hlp => ?noProvIdx
        usedSound := ?usedSound
        usedCompl := fun t ht hng' hlp src hsrc => ?usedCompl
        bindIdx := fun k pt hlp hb hng' hk => ?bindIdx
        callIdx := fun p c hpc => ?callIdx
        callPay := fun c hc => ?callPay
        idxSound := fun hg u n hu => ?idxSound
        callArgs := fun hg p c pt hpc hlp j a d haj hdj => ?callArgs }
    case idxReach =>
      rcases look_cons_isSome.mp hu with rfl | hu
      · exact .inr hr
      · exact hI.idxReach u hu
    case closed =>
      rcases look_cons_isSome.mp ht with rfl | ht
      · exact missing_nil hm u (mem_kids.mpr hd)
      · exact hI.closed t ht hng' u hd
    case errsNamed =>
      cases hfl with
      | noProv hlp =>
        rcases List.mem_append.mp he with h | h
        · exact hI.errsNamed e h
        · exact ⟨curr.t, curr.up, List.mem_singleton.mp h, hlp, hng, hr⟩
      | _ => exact hI.errsNamed e he
    case abortErr =>
      have hold : s.errs ≠ [] → errs' ≠ [] := fun h => by simp [hle, h]
      rcases (look_cons_fresh hli).mp hu with ⟨rfl, rfl⟩ | hu
      · cases hfl with
        | noProv => simp
        | bind pt _ _ _ h => exact hold (hI.abortErr _ h)
        | abort pt a _ _ h => exact hold (hI.abortErr a h)
      · exact hold (hI.abortErr u hu)
    case noProvIdx =>
      rcases look_cons_isSome.mp hu with rfl | hu
      · rw [look_cons_self]
        cases hfl with
        | noProv => rfl
        | bind pt _ h | abort pt _ h | call pt _ h => cases hlp.symm.trans h
      · exact look_keep hli (hI.noProvIdx u hu hng' hlp)
    case usedSound =>
      cases hfl with
      | noProv => exact hI.usedSound
      | _ => exact usedOf_sound hI hin hli
    case usedCompl =>
      rcases look_cons_isSome.mp ht with rfl | ht
      · cases hfl with
        | noProv h => rw [h] at hlp; cases hlp
        | _ => exact mem_usedOf.mpr (.inr hsrc)
      · exact hmono src (hI.usedCompl t ht hng' hlp src hsrc)
    case bindIdx =>
      rcases look_cons_isSome.mp hk with rfl | hk
      · rw [look_cons_self, look_cons_ne _ _ hb]
        cases hfl with
        | noProv h => rw [h] at hlp; cases hlp
        | bind pt' _ h _ h' => rw [hlp] at h; cases h; exact h'.symm
        | abort pt' _ h h' | call pt' _ h h' => rw [hlp] at h; cases h; exact absurd h' hb
      · obtain ⟨i, hi⟩ := Option.isSome_iff_exists.mp hk
        rw [look_keep hli hi, look_keep hli (hI.bindIdx k pt hlp hb hng' hk ▸ hi)]
    case callIdx =>
      cases hfl with
      | call pt c' _ _ _ hout =>
        rcases getElem?_concat hpc with h | ⟨rfl, rfl⟩
        · exact look_keep hli (hI.callIdx p c h)
        · rw [hout, look_cons_self]
      | _ => exact look_keep hli (hI.callIdx p c hpc)
    case callPay =>
      cases hfl with
      | call pt c' hlp hb hmk hout hlen =>
        rcases List.mem_append.mp hc with h | h
        · exact hI.callPay c h
        · obtain rfl := List.mem_singleton.mp h
          exact ⟨pt, hout ▸ hlp, hout ▸ hb, hmk, hlen⟩
      | _ => exact hI.callPay c hc
    case idxSound =>
      have hold : ∀ u n, look u s.index = some (some n) →
          produced given calls' n = some (resolveTy pm u) :=
        fun u n h => hlc ▸ produced_append lc (hI.idxSound hg u n h)
      rcases (look_cons_fresh hli).mp hu with ⟨rfl, rfl⟩ | hu
      · cases hfl with
        | bind pt _ hlp _ h =>
          rw [resolveTy_some hlp, ← resolveTy_conc hcc hlp]
          exact hold _ _ h
        | call pt c hlp hb _ hout => rw [produced_new, hout, resolveTy_some hlp, hb]
      · exact hold u n hu
    case callArgs =>
      cases hfl with
      | call pt' c' hlp' _ _ hout _ hargs =>
        rcases getElem?_concat hpc with h | ⟨rfl, rfl⟩
        · exact (hI.callArgs hg p c pt h hlp j a d haj hdj).imp_right (produced_append _)
        · rw [hout, hlp'] at hlp
          cases hlp
          have h1 := hI.idxSound hg d a (hargs j a d haj hdj)
          exact ⟨produced_lt h1, produced_append _ h1⟩
      | _ => exact hI.callArgs hg p c pt hpc hlp j a d haj hdj

end

theorem Inv.final {pm : PMap} (sm : SMap) {given : List Ty} (hcc : ConcClosed pm)
    (hnd : given.Nodup) (out : Ty) : Inv pm sm given out (final pm sm given out) :=
  svIter_induct (Inv pm sm given out) (fun _ _ hi hs => hi.step hcc hs) _ _
    (Inv.init pm sm hnd out)

end WireP.Solve
