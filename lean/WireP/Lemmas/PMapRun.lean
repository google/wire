import WireP.Lemmas.PMapBasic
/-! Every stage of `buildProviderMap` asks, key by key, for an entry in both maps: an item brings its
payload along, a binding takes whatever the provider map holds for its concrete type at that
moment.  A request is refused with `multi` when its key is present, a binding also with
`bindMissing`; otherwise its key is pushed on both maps (`step_cases`).  So the facts about the stages
are proved once, about `run`, for both kinds of request. -/
namespace WireP.PMapProofs
open WireV

def Inv (s : BState) : Prop := keys s.pm = keys s.sm

inductive Req
  | item (x : Item)
  | bnd (b : Bnd)

namespace Req

def key : Req → Ty
  | item x => x.1
  | bnd b => b.iface

def src : Req → SrcId
  | item x => x.2.2
  | bnd b => .bnd b.id

def pay (pm : PMap) : Req → Option PT
  | item x => some x.2.1
  | bnd b => look b.provided pm

end Req

def step (s : BState) : Req → BState
  | .item x => s.ins x.1 x.2.1 x.2.2
  | .bnd b => insBnd s b

def run (s : BState) (l : List Req) : BState := l.foldl step s

@[simp] theorem run_nil (s : BState) : run s [] = s := rfl
@[simp] theorem run_cons (s : BState) (r : Req) (l : List Req) : run s (r :: l) = run (step s r) l := rfl
theorem run_append (s : BState) (l₁ l₂ : List Req) : run s (l₁ ++ l₂) = run (run s l₁) l₂ :=
  List.foldl_append

theorem insL_eq_run (s : BState) (l : List Item) : insL s l = run s (l.map .item) := by
  rw [run, List.foldl_map]; rfl
theorem bL_eq_run (s : BState) (l : List Bnd) : bL s l = run s (l.map .bnd) := by
  rw [run, List.foldl_map]; rfl

theorem step_cases (s : BState) (r : Req) :
    (r.key ∈ keys s.sm ∧ step s r = { s with errs := s.errs ++ [.multi r.key] }) ∨
    (r.key ∉ keys s.sm ∧ ∃ pt, r.pay s.pm = some pt ∧
      step s r = { s with pm := (r.key, pt) :: s.pm, sm := (r.key, r.src) :: s.sm }) ∨
    (r.key ∉ keys s.sm ∧ ∃ b, r = .bnd b ∧ b.provided ∉ keys s.pm ∧
      step s r = { s with errs := s.errs ++ [.bindMissing b.iface b.provided] }) := by
  cases r with
  | item x =>
    simp only [step, BState.ins, Req.key, Req.pay, Req.src]
    cases h : look x.1 s.sm with
    | some _ => exact .inl ⟨mem_keys_of_look h, rfl⟩
    | none => exact .inr (.inl ⟨look_eq_none_iff.mp h, _, rfl, rfl⟩)
  | bnd b =>
    simp only [step, insBnd, Req.key, Req.pay, Req.src]
    cases h : look b.iface s.sm with
    | some _ => exact .inl ⟨mem_keys_of_look h, rfl⟩
    | none =>
      cases hp : look b.provided s.pm with
      | some c => exact .inr (.inl ⟨look_eq_none_iff.mp h, c, rfl, rfl⟩)
      | none => exact .inr (.inr ⟨look_eq_none_iff.mp h, b, rfl, look_eq_none_iff.mp hp, rfl⟩)

/-- The invariant of a run: with every key listed once, `look` and membership agree. -/
structure WF (s : BState) : Prop where
  inv : Inv s
  nodup : (keys s.sm).Nodup

theorem WF.nodup_pm {s : BState} (h : WF s) : (keys s.pm).Nodup := h.inv ▸ h.nodup

theorem wf_empty : WF {} := ⟨rfl, List.nodup_nil⟩

theorem step_wf {s : BState} (h : WF s) (r : Req) : WF (step s r) := by
  rcases step_cases s r with ⟨_, e⟩ | ⟨hk, pt, _, e⟩ | ⟨_, b, _, _, e⟩ <;> rw [e]
  · exact ⟨h.inv, h.nodup⟩
  · exact ⟨congrArg (r.key :: ·) h.inv, List.nodup_cons.mpr ⟨hk, h.nodup⟩⟩
  · exact ⟨h.inv, h.nodup⟩

theorem run_wf {s : BState} (h : WF s) (l : List Req) : WF (run s l) := by
  induction l generalizing s with
  | nil => exact h
  | cons r l ih => exact ih (step_wf h r)

theorem run_mono (s : BState) (l : List Req) :
    s.pm <:+ (run s l).pm ∧ s.sm <:+ (run s l).sm ∧ s.errs <+: (run s l).errs := by
  induction l generalizing s with
  | nil => simp
  | cons r l ih =>
    obtain ⟨h1, h2, h3⟩ := ih (step s r)
    refine ⟨.trans ?_ h1, .trans ?_ h2, .trans ?_ h3⟩ <;>
      rcases step_cases s r with ⟨_, e⟩ | ⟨_, _, _, e⟩ | ⟨_, _, _, _, e⟩ <;> simp [e]

theorem run_errs_nil {s : BState} {l : List Req} (h : (run s l).errs = []) : s.errs = [] :=
  List.prefix_nil.mp (h ▸ (run_mono s l).2.2)

theorem run_keys_mono (s : BState) (l : List Req) {t : Ty} (h : t ∈ keys s.sm) : t ∈ keys (run s l).sm :=
  ((run_mono s l).2.1.map _).subset h

theorem run_item_key {s : BState} {l : List Req} {x : Item} (hx : .item x ∈ l) : x.1 ∈ keys (run s l).sm := by
  induction l generalizing s with
  | nil => cases hx
  | cons r l ih =>
    rcases List.mem_cons.mp hx with rfl | hx
    · refine run_keys_mono _ l ?_
      rcases step_cases s (.item x) with ⟨hk, e⟩ | ⟨_, _, _, e⟩ | ⟨_, _, h, _⟩
      · rw [e]; exact hk
      · rw [e]; exact List.mem_cons_self ..
      · cases h
    · exact ih hx

theorem look_run {s : BState} (hw : WF s) (l : List Req) {t : Ty} {c : PT} (h : look t s.pm = some c) :
    look t (run s l).pm = some c :=
  look_of_mem_nodup (run_wf hw l).nodup_pm ((run_mono s l).1.subset (look_mem h))

/-- A run that ends without an error recorded every request: `sm` grew by the requests in order, and
    each request's payload stands under its key in the final map.  Every `ok_*` fact of
    `PMapProofs.lean` is read off this. -/
theorem run_clean {s : BState} {l : List Req} (hw : WF s) (h : (run s l).errs = []) :
    (run s l).sm = (l.map fun r => (r.key, r.src)).reverse ++ s.sm ∧
    ∀ r ∈ l, ∃ pt, r.pay (run s l).pm = some pt ∧ look r.key (run s l).pm = some pt := by
  induction l generalizing s with
  | nil => simp
  | cons r l ih =>
    obtain ⟨hsm, hl⟩ := ih (step_wf hw r) h
    have h1 : (step s r).errs = [] := run_errs_nil h
    rcases step_cases s r with ⟨_, e⟩ | ⟨hk, pt, hp, e⟩ | ⟨_, b, _, _, e⟩
    · simp [e] at h1
    · refine ⟨by rw [run_cons, hsm, e]; simp, ?_⟩
      rintro r' (_ | ⟨_, hr'⟩)
      · refine ⟨pt, ?_, look_run (step_wf hw r) l (by rw [e]; simp [look_cons])⟩
        cases r with
        | item x => exact hp
        | bnd b => exact look_run hw (.bnd b :: l) hp
      · exact hl r' hr'
    · simp [e] at h1

theorem run_clean_keys {s : BState} {l : List Req} (hw : WF s) (h : (run s l).errs = []) :
    keys (run s l).sm = (l.map Req.key).reverse ++ keys s.sm := by
  rw [(run_clean hw h).1]
  simp [keys, Function.comp_def]

theorem run_clean_src {s : BState} {l : List Req} (hw : WF s) (h : (run s l).errs = []) {r : Req}
    (hr : r ∈ l) : look r.key (run s l).sm = some r.src :=
  look_of_mem_nodup (run_wf hw l).nodup (by
    rw [(run_clean hw h).1]
    exact List.mem_append_left _ (List.mem_reverse.mpr (List.mem_map_of_mem hr)))

theorem run_multi {s : BState} {l : List Req} {t : Ty} (h : Err.multi t ∈ (run s l).errs) :
    Err.multi t ∈ s.errs ∨ 2 ≤ (keys s.sm).count t + (l.map Req.key).count t := by
  induction l generalizing s with
  | nil => exact .inl h
  | cons r l ih =>
    have hmono := List.count_le_count_cons (a := t) (b := r.key) (l := l.map Req.key)
    rw [List.map_cons]
    -- for each outcome of `r`: `multi t` is reported up to `r`, or `t` counts twice from there on
    rcases step_cases s r with ⟨hk, e⟩ | ⟨_, _, _, e⟩ | ⟨_, _, _, _, e⟩ <;>
      rcases ih h with h1 | h1 <;> simp only [e, List.mem_append, List.mem_singleton] at h1
    · rcases h1 with h1 | h1
      · exact .inl h1
      · cases h1
        have := List.count_pos_iff.mpr hk
        simp only [List.count_cons_self]
        omega
    · omega
    · exact .inl h1
    · simp only [keys_cons, List.count_cons] at h1 ⊢
      omega
    · exact .inl (h1.resolve_right nofun)
    · omega

theorem run_clean_bnd {s : BState} {l : List Req} (hw : WF s) (h : (run s l).errs = []) {i : Nat}
    (hi : i < l.length) {b : Bnd} (hb : l[i] = .bnd b) :
    (run s (l.take i)).errs = [] ∧ b.provided ∈ keys (run s (l.take i)).sm := by
  rw [← List.take_append_drop i l, List.drop_eq_getElem_cons hi, hb, run_append, run_cons] at h
  have h1 := run_errs_nil h
  refine ⟨run_errs_nil (l := [.bnd b]) h1, ?_⟩
  rcases step_cases (run s (l.take i)) (.bnd b) with ⟨_, e⟩ | ⟨_, pt, hp, _⟩ | ⟨_, _, _, _, e⟩
  · simp [e] at h1
  · exact (run_wf hw _).inv ▸ mem_keys_of_look hp
  · simp [e] at h1

theorem run_all_multi {s : BState} {l : List Req} (hw : WF s)
    (hp : ∀ i (h : i < l.length) b, l[i] = .bnd b →
      b.provided ∈ keys s.sm ∨ b.provided ∈ (l.take i).map Req.key) :
    ∀ e ∈ (run s l).errs, e ∈ s.errs ∨ ∃ t, e = .multi t := by
  induction l generalizing s with
  | nil => exact fun e he => .inl he
  | cons r l ih =>
    -- by `hp 0`, `r` is not refused for want of its concrete type, so the requests after it find its key
    have hr : r.key ∈ keys (step s r).sm ∧ ∀ e ∈ (step s r).errs, e ∈ s.errs ∨ ∃ t, e = .multi t := by
      rcases step_cases s r with ⟨hk, e'⟩ | ⟨_, _, _, e'⟩ | ⟨_, b, rfl, hb, _⟩
      · rw [e']; exact ⟨hk, fun _ he => (List.mem_append.mp he).imp_right fun h => ⟨_, List.mem_singleton.mp h⟩⟩
      · rw [e']; exact ⟨List.mem_cons_self .., fun _ => .inl⟩
      · exact absurd (hw.inv ▸ (hp 0 (Nat.zero_lt_succ _) b rfl).resolve_right nofun) hb
    intro e he
    refine (ih (step_wf hw r) (fun i h b hb => ?_) e he).elim (hr.2 e) .inr
    refine (hp (i + 1) (Nat.succ_lt_succ h) b hb).elim (fun h => .inl (run_keys_mono s [r] h)) fun h => ?_
    exact (List.mem_cons.mp h).imp (fun e : b.provided = r.key => e ▸ hr.1) id

/-- Bindings only alias: no stored value comes from them. -/
theorem run_vals {s : BState} {l : List Req} : ∀ kv ∈ (run s l).pm,
    (∃ kv' ∈ s.pm, kv'.2 = kv.2) ∨ ∃ x, .item x ∈ l ∧ x.2.1 = kv.2 := by
  induction l generalizing s with
  | nil => exact fun kv h => .inl ⟨kv, h, rfl⟩
  | cons r l ih =>
    intro kv hkv
    refine (ih kv hkv).elim ?_ fun ⟨x, hx, e⟩ => .inr ⟨x, List.mem_cons_of_mem _ hx, e⟩
    rintro ⟨kv', hkv', e'⟩
    rcases step_cases s r with ⟨_, e⟩ | ⟨_, pt, hp, e⟩ | ⟨_, _, _, _, e⟩ <;> rw [e] at hkv'
    · exact .inl ⟨kv', hkv', e'⟩
    · rcases List.mem_cons.mp hkv' with rfl | hm
      · cases r with
        | item x => exact .inr ⟨x, List.mem_cons_self .., (Option.some.inj hp).trans e'⟩
        | bnd b => exact .inl ⟨_, look_mem hp, e'⟩
      · exact .inl ⟨kv', hm, e'⟩
    · exact .inl ⟨kv', hkv', e'⟩

theorem bL_keys_sub {s : BState} (l : List Bnd) :
    ∀ t ∈ keys (bL s l).sm, t ∈ keys s.sm ∨ t ∈ l.map (·.iface) := by
  induction l generalizing s with
  | nil => exact fun t h => Or.inl h
  | cons b l ih =>
    intro t ht
    refine (ih t ht).elim (fun h => ?_) fun h => .inr (List.mem_cons_of_mem _ h)
    rcases step_cases s (.bnd b) with ⟨_, e⟩ | ⟨_, _, _, e⟩ | ⟨_, _, _, _, e⟩ <;>
      simp only [step] at e <;> rw [e] at h
    · exact .inl h
    · exact (List.mem_cons.mp h).elim (fun h => .inr (h ▸ List.mem_cons_self ..)) .inl
    · exact .inl h

end WireP.PMapProofs
