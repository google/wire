import WireV.Cmd
import WireP.Lemmas.ListAux
/-! For C17: `genLoop` and `diffLoop` are put in closed form once (`genLoop_eq`: the file system is `putAll` of the entries
written; `diffLoop_eq`); everything else is about `fsGet` of `putAll`. -/
namespace WireP.CmdProofs
open WireV

@[simp] theorem fsGet_nil (p : Nat) : fsGet [] p = none := rfl

theorem fsGet_cons (k c : Nat) (fs : FS) (p : Nat) :
    fsGet ((k, c) :: fs) p = if p = k then some c else fsGet fs p := rfl

theorem fsGet_filter_ne (fs : FS) (q p : Nat) :
    fsGet (fs.filter (fun kv => kv.1 != q)) p = if p = q then none else fsGet fs p := by
  induction fs with
  | nil => simp
  | cons kv fs ih =>
    obtain ⟨k, c⟩ := kv
    by_cases hk : k = q
    · rw [List.filter_cons_of_neg (by simpa using hk), ih, fsGet_cons, hk]
      split <;> rfl
    · rw [List.filter_cons_of_pos (by simpa using hk), fsGet_cons, fsGet_cons, ih]
      by_cases hp : p = k
      · rw [if_pos hp, if_neg (hp ▸ hk), if_pos hp]
      · rw [if_neg hp, if_neg hp]

theorem fsGet_fsPut (fs : FS) (p c q : Nat) :
    fsGet (fsPut fs p c) q = if q = p then some c else fsGet fs q := by
  rw [fsPut, fsGet_cons, fsGet_filter_ne]
  split <;> rfl

theorem fsGet_fsDel (fs : FS) (p q : Nat) :
    fsGet (fsDel fs p) q = if q = p then none else fsGet fs q :=
  fsGet_filter_ne fs p q

def putAll (fs : FS) (es : List (Nat × Nat)) : FS := es.foldl (fun fs e => fsPut fs e.1 e.2) fs

theorem putAll_nil (fs : FS) : putAll fs [] = fs := rfl

theorem putAll_cons (fs : FS) (e : Nat × Nat) (es : List (Nat × Nat)) :
    putAll fs (e :: es) = putAll (fsPut fs e.1 e.2) es := rfl

/-- what `putAll` leaves at `p`: the last entry for `p`, else what was there -/
theorem fsGet_putAll (es : List (Nat × Nat)) (fs : FS) (p : Nat) :
    fsGet (putAll fs es) p = ((es.reverse.find? (fun e => e.1 == p)).map (·.2)).or (fsGet fs p) := by
  induction es generalizing fs with
  | nil => rfl
  | cons e es ih =>
    rw [putAll_cons, ih, fsGet_fsPut, List.reverse_cons, List.find?_append]
    cases es.reverse.find? (fun e => e.1 == p) with
    | some x => rfl
    | none =>
      by_cases hp : p = e.1
      · simp [hp]
      · simp [hp, Ne.symm hp]

theorem fsGet_putAll_of_not_mem {es : List (Nat × Nat)} {p : Nat} (h : p ∉ es.map (·.1)) (fs : FS) :
    fsGet (putAll fs es) p = fsGet fs p := by
  have : es.reverse.find? (fun e => e.1 == p) = none :=
    List.find?_eq_none.mpr fun e he hp =>
      h (List.mem_map.mpr ⟨e, List.mem_reverse.mp he, beq_iff_eq.mp hp⟩)
  rw [fsGet_putAll, this]; rfl

theorem fsGet_putAll_of_mem {es : List (Nat × Nat)} {p c : Nat} (hnd : (es.map (·.1)).Nodup)
    (h : (p, c) ∈ es) (fs : FS) : fsGet (putAll fs es) p = some c := by
  have : es.reverse.find? (fun e => e.1 == p) = some (p, c) :=
    (find?_key_eq_some_iff (f := Prod.fst) (((List.reverse_perm es).map _).nodup_iff.mpr hnd)).mpr
      ⟨List.mem_reverse.mpr h, rfl⟩
  rw [fsGet_putAll, this]; rfl

theorem putAll_of_nodup {es : List (Nat × Nat)} (hnd : (es.map (·.1)).Nodup) (fs : FS) :
    putAll fs es = es.reverse ++ fs.filter (fun kv => !(es.map (·.1)).contains kv.1) := by
  induction es generalizing fs with
  | nil => exact (List.filter_eq_self.mpr fun _ _ => rfl).symm
  | cons e es ih =>
    rw [List.map_cons, List.nodup_cons] at hnd
    have hnot : (!(es.map (·.1)).contains e.1) = true := by simpa using hnd.1
    rw [putAll_cons, ih hnd.2, fsPut, List.filter_cons, if_pos hnot, List.filter_filter,
      List.reverse_cons, List.append_assoc, List.singleton_append]
    congr 2
    apply List.filter_congr
    intro kv _
    simp only [List.map_cons, List.contains_cons, Bool.not_or, Bool.and_comm]
    rfl

theorem genLoop_nil (w : Nat → Bool) (fs : FS) (b : Bool) : genLoop w [] fs b = (fs, b) := rfl

theorem genLoop_cons (w : Nat → Bool) (o : PkgOut) (os : List PkgOut) (fs : FS) (b : Bool) :
    genLoop w (o :: os) fs b =
      if o.content = 0 then genLoop w os fs (if o.errs then false else b)
      else if w o.outPath then genLoop w os (fsPut fs o.outPath o.content) (if o.errs then false else b)
      else genLoop w os fs false := rfl

/-- the entries `gen` writes, in order -/
def writes (w : Nat → Bool) (outs : List PkgOut) : List (Nat × Nat) :=
  (outs.filter fun o => o.content != 0 && w o.outPath).map fun o => (o.outPath, o.content)

def allOk (w : Nat → Bool) (outs : List PkgOut) : Bool :=
  outs.all fun o => !o.errs && (o.content == 0 || w o.outPath)

theorem genLoop_eq (w : Nat → Bool) : ∀ (outs : List PkgOut) (fs : FS) (b : Bool),
    genLoop w outs fs b = (putAll fs (writes w outs), b && allOk w outs)
  | [], fs, b => by simp [genLoop_nil, writes, allOk, putAll_nil]
  | o :: os, fs, b => by
    rw [genLoop_cons]
    by_cases hc : o.content = 0
    · cases he : o.errs <;> simp [hc, he, genLoop_eq w os, writes, allOk]
    · by_cases hw : w o.outPath = true
      · cases he : o.errs <;> simp [hc, he, hw, genLoop_eq w os, writes, allOk, putAll_cons]
      · simp [hc, hw, genLoop_eq w os, writes, allOk]

theorem mem_writes_keys {w : Nat → Bool} {outs : List PkgOut} {p : Nat} :
    p ∈ (writes w outs).map (·.1) ↔ ∃ o ∈ outs, o.outPath = p ∧ o.content ≠ 0 ∧ w p = true := by
  simp only [writes, List.map_map, List.mem_map, List.mem_filter, Function.comp, Bool.and_eq_true, bne_iff_ne]
  constructor
  · rintro ⟨o, ⟨ho, hc, hw⟩, rfl⟩; exact ⟨o, ho, rfl, hc, hw⟩
  · rintro ⟨o, ho, rfl, hc, hw⟩; exact ⟨o, ⟨ho, hc, hw⟩, rfl⟩

theorem mem_writes {w : Nat → Bool} {outs : List PkgOut} {o : PkgOut} (ho : o ∈ outs)
    (hc : o.content ≠ 0) (hw : w o.outPath = true) : (o.outPath, o.content) ∈ writes w outs :=
  List.mem_map.mpr ⟨o, List.mem_filter.mpr ⟨ho, by simp [hc, hw]⟩, rfl⟩

theorem writes_nodup {w : Nat → Bool} {outs : List PkgOut} (h : (outs.map (·.outPath)).Nodup) :
    ((writes w outs).map (·.1)).Nodup := by
  rw [writes, List.map_map]
  exact h.sublist (List.filter_sublist.map _)

theorem genExec_ok (outs : List PkgOut) (w : Nat → Bool) (fs : FS) :
    genExec true (.ok outs) w fs = (putAll fs (writes w outs), if allOk w outs then 0 else 1) := by
  cases outs with
  | nil => rfl
  | cons o os => simp [genExec, genLoop_eq]

theorem genExec_loadErr (h : Bool) (w : Nat → Bool) (fs : FS) : genExec h .loadErr w fs = (fs, 1) := by
  cases h <;> rfl

theorem gen_exit (outs : List PkgOut) (w : Nat → Bool) (fs : FS) :
    (genExec true (.ok outs) w fs).2 = 0 ↔
      ∀ o ∈ outs, o.errs = false ∧ (o.content ≠ 0 → w o.outPath = true) := by
  simp [genExec_ok, allOk, Decidable.or_iff_not_imp_left]

theorem gen_failed_untouched (h : Bool) (outs : List PkgOut) (w : Nat → Bool) (fs : FS) (p : Nat)
    (hall : ∀ o' ∈ outs, o'.outPath = p → o'.content = 0 ∨ w p = false) :
    fsGet (genExec h (.ok outs) w fs).1 p = fsGet fs p := by
  cases h
  · rfl
  · rw [genExec_ok]
    refine fsGet_putAll_of_not_mem (fun hm => ?_) fs
    obtain ⟨o, ho, hp, hc, hw⟩ := mem_writes_keys.mp hm
    rcases hall o ho hp with h0 | h0
    · exact hc h0
    · rw [hw] at h0; cases h0

theorem gen_writes_only (h : Bool) (load : LoadRes) (w : Nat → Bool) (fs : FS) (p : Nat)
    (hne : fsGet (genExec h load w fs).1 p ≠ fsGet fs p) :
    h = true ∧ ∃ outs, load = .ok outs ∧ ∃ o ∈ outs, o.outPath = p ∧ o.content ≠ 0 ∧ w p = true := by
  cases h
  · exact absurd rfl hne
  · cases load with
    | loadErr => exact absurd rfl hne
    | ok outs =>
      rw [genExec_ok] at hne
      exact ⟨rfl, outs, rfl, mem_writes_keys.mp
        (Classical.byContradiction fun hm => hne (fsGet_putAll_of_not_mem hm fs))⟩

theorem gen_isolation (outs : List PkgOut) (w : Nat → Bool) (fs : FS) (o : PkgOut)
    (hnd : (outs.map (·.outPath)).Nodup) (ho : o ∈ outs) (hc : o.content ≠ 0) (hw : w o.outPath = true) :
    fsGet (genExec true (.ok outs) w fs).1 o.outPath = some o.content := by
  rw [genExec_ok]; exact fsGet_putAll_of_mem (writes_nodup hnd) (mem_writes ho hc hw) fs

theorem diffLoop_nil (fs : FS) (s d : Bool) : diffLoop fs [] s d = (s, d) := rfl

theorem diffLoop_cons (fs : FS) (o : PkgOut) (os : List PkgOut) (s d : Bool) :
    diffLoop fs (o :: os) s d =
      if o.content = 0 then diffLoop fs os (if o.errs then false else s) d
      else diffLoop fs os (if o.errs then false else s) (d || (fsGet fs o.outPath).getD 0 != o.content) := rfl

theorem diffLoop_eq (fs : FS) : ∀ (outs : List PkgOut) (s d : Bool),
    diffLoop fs outs s d =
      (s && outs.all (fun o => !o.errs),
       d || outs.any (fun o => o.content != 0 && (fsGet fs o.outPath).getD 0 != o.content))
  | [], s, d => by simp [diffLoop_nil]
  | o :: os, s, d => by
    rw [diffLoop_cons]
    by_cases hc : o.content = 0
    · cases he : o.errs <;> simp [hc, he, diffLoop_eq fs os]
    · cases he : o.errs <;> simp [hc, bne_iff_ne.mpr hc, he, diffLoop_eq fs os, Bool.or_assoc]

/-- `diff`'s exit code on analysed packages; an absent file differs -/
theorem diffExec_ok (hs : Nat) (outs : List PkgOut) (fs : FS) :
    diffExec hs true (.ok outs) fs =
      if ∃ o ∈ outs, o.errs = true then 2
      else if ∃ o ∈ outs, o.content ≠ 0 ∧ fsGet fs o.outPath ≠ some o.content then 1 else 0 := by
  have hd : ∀ o : PkgOut, o.content ≠ 0 →
      ((fsGet fs o.outPath).getD 0 ≠ o.content ↔ fsGet fs o.outPath ≠ some o.content) := by
    intro o hc
    cases fsGet fs o.outPath <;> simp [Ne.symm hc]
  have : diffExec hs true (.ok outs) fs =
      if !(diffLoop fs outs true false).1 then 2 else if (diffLoop fs outs true false).2 then 1 else 0 := by
    cases outs <;> rfl
  rw [this, diffLoop_eq]
  have h1 : (!(true && outs.all fun o => !o.errs)) = true ↔ ∃ o ∈ outs, o.errs = true := by simp
  have h2 : (false || outs.any fun o => o.content != 0 && (fsGet fs o.outPath).getD 0 != o.content) = true ↔
      ∃ o ∈ outs, o.content ≠ 0 ∧ fsGet fs o.outPath ≠ some o.content := by
    simp only [Bool.false_or, List.any_eq_true, Bool.and_eq_true, bne_iff_ne]
    exact exists_congr fun o => and_congr_right fun _ => and_congr_right (hd o)
  simp only [h1, h2]

end WireP.CmdProofs
