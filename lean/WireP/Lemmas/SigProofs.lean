import WireV.Sig
/-! The duplicate-parameter scan `dupParam` of `WireV/Sig.lean`, for `WireP/Props/C09.lean` and `C12.lean`. -/
namespace WireP.Sig
open WireV

theorem dupParamFrom_none (seen ts : List Ty) :
    dupParamFrom seen ts = none ↔ ts.Nodup ∧ ∀ t ∈ ts, t ∉ seen := by
  induction ts generalizing seen with
  | nil => simp [dupParamFrom]
  | cons a rest ih =>
    rw [dupParamFrom]
    split
    · simp [*]
    · simp only [ih, List.nodup_cons, List.mem_append, List.mem_cons, List.not_mem_nil, or_false, not_or,
        forall_eq_or_imp]
      exact ⟨fun ⟨h1, h2⟩ => ⟨⟨fun h => (h2 a h).2 rfl, h1⟩, ‹a ∉ seen›, fun t ht => (h2 t ht).1⟩,
        fun ⟨⟨h1, h2⟩, _, h3⟩ => ⟨h2, fun t ht => ⟨h3 t ht, fun h => h1 (h ▸ ht)⟩⟩⟩

theorem dupParam_none_iff (ts : List Ty) : dupParam ts = none ↔ ts.Nodup := by
  unfold dupParam
  rw [dupParamFrom_none]
  simp

theorem dupParamFrom_some (seen ts : List Ty) (t : Ty) (h : dupParamFrom seen ts = some t) :
    2 ≤ (seen ++ ts).count t := by
  induction ts generalizing seen with
  | nil => cases h
  | cons a rest ih =>
    rw [dupParamFrom] at h
    split at h
    · cases h
      have := List.count_pos_iff.mpr ‹t ∈ seen›
      simp only [List.count_append, List.count_cons_self]; omega
    · simpa using ih _ h

theorem dupParam_named (ts : List Ty) (t : Ty) (h : dupParam ts = some t) : 2 ≤ ts.count t := by
  simpa using dupParamFrom_some [] ts t h

end WireP.Sig
