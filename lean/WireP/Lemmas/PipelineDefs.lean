import WireP.Lemmas.AcyclicDefs
import WireP.Lemmas.PMapProofs
import WireP.Lemmas.SolveUsed
/-! The vocabulary of the statements in `WireP/Props/Pipeline.lean`. -/
namespace WireP.Pipeline
open WireV WireP.C05 WireP.C07 WireP.Solve

/-- Only the last definition (the `wire.Build` call) has injector arguments. -/
def BuildLast (ds : List SetDef) : Prop := ∀ d ∈ ds.dropLast, d.args = none

def ownSources (d : SetDef) : List Ty :=
  d.args.getD [] ++ d.provs.flatMap (·.outs) ++ d.vals.map (·.out) ++ d.flds.flatMap (·.outs)
    ++ d.bnds.map (·.iface)

/-- The harness passes as `order` all types of the program, sorted by their printed form. -/
def OrderCovers (order : List Ty) (ds : List SetDef) : Prop :=
  ∀ d ∈ ds, ∀ t ∈ ownSources d, t ∈ order

/-- Everything the planner theorems (C02, C06, C08, C11) say about a call list; `d`, `impIds` are the
    last set and the identities of the sets it imports. -/
structure PlanSpec (d : SetDef) (impIds : List Nat) (pm : PMap) (sm : SMap) (given : List Ty)
    (out : Ty) (calls : List Call) : Prop where
  calls_eq : calls = (final pm sm given out).calls
  /-- C02: a call is `mkCall` of a concrete, non-argument entry; argument `j` is an earlier variable
      holding the (resolved) type of dependency `j` -/
  call_sound : ∀ (p : Nat) c, calls[p]? = some c →
    ∃ pt, look c.out pm = some pt ∧ pt.t = c.out ∧ (∀ i, pt.src ≠ .arg i) ∧
      mkCall c.out pt.src c.args = some c ∧ c.args.length = (depsOf pt.src).length ∧
      ∀ (j : Nat) a dd, c.args[j]? = some a → (depsOf pt.src)[j]? = some dd →
        a < given.length + p ∧ produced given calls a = some (resolveTy pm dd)
  /-- C02: no type is built twice -/
  outs_nodup : (calls.map (·.out)).Nodup
  /-- C02: no given type is built -/
  outs_not_given : ∀ c ∈ calls, c.out ∉ given
  /-- C02: only what the requested type needs is built -/
  only_needed : ∀ c ∈ calls, Reach pm out c.out
  /-- C02: the requested type is indexed with a variable that holds it -/
  result : ∃ n, look out (final pm sm given out).index = some (some n) ∧
    produced given calls n = some (resolveTy pm out)
  /-- C02: what `injectPass` returns -/
  result_last : calls ≠ [] → (calls.getLast?).map (·.out) = some (resolveTy pm out)
  /-- C06: nothing needed is missing -/
  no_missing : ∀ u, Reach pm out u → u ∈ given ∨ (look u pm).isSome
  /-- C08: every direct item of the set is the source of a needed, non-given type -/
  all_used : ∀ src e, DirectItem d impIds src e →
    ∃ t, Reach pm out t ∧ t ∉ given ∧ look t sm = some src
  /-- C11: a binding produces no call -/
  bind_no_call : ∀ k pt, look k pm = some pt → pt.t ≠ k → ∀ c ∈ calls, c.out ≠ k
  /-- C11: a needed binding shares the variable of its concrete type -/
  bind_value : ∀ k pt, look k pm = some pt → pt.t ≠ k → Reach pm out k →
    ∃ n, look k (final pm sm given out).index = some (some n) ∧
      look pt.t (final pm sm given out).index = some (some n) ∧
      produced given calls n = some pt.t

/-- The conditions under which the front half accepts the set `d`, given the results `done` of the sets
    before it. -/
def SetAcceptable (done : List (Nat × SetRes)) (d : SetDef) : Prop :=
  (∀ i ∈ d.imports, i < done.length) ∧
  ∀ impMaps, importsOf done d = .ok impMaps →
    (allSources d.args impMaps d.provs d.vals d.flds d.bnds).Nodup ∧
    (∀ b ∈ d.bnds, b.provided ∈ baseSources d.args impMaps d.provs d.vals d.flds) ∧
    ∀ pm sm, buildProviderMap d.args impMaps d.provs d.vals d.flds d.bnds = .ok (pm, sm) →
      ¬ Cyclic (succOf pm)

def AllAcceptable (order : List Ty) (ds : List SetDef) : Prop :=
  ∀ j dj, ds[j]? = some dj → SetAcceptable (procSets order (ds.take j)) dj

/-- The same set with its items declared in another order; the list of imported sets stays as it is. -/
structure SetPerm (d d' : SetDef) : Prop where
  id : d.id = d'.id
  args : d.args = d'.args
  imports : d.imports = d'.imports
  provs : d.provs.Perm d'.provs
  vals : d.vals.Perm d'.vals
  flds : d.flds.Perm d'.flds
  bnds : d.bnds.Perm d'.bnds

theorem SetPerm.refl (d : SetDef) : SetPerm d d :=
  ⟨rfl, rfl, rfl, .refl _, .refl _, .refl _, .refl _⟩

/-- Item identities are distinct within each kind (Go: pointers to distinct objects). -/
structure DistinctIds (d : SetDef) : Prop where
  provs : (d.provs.map (·.id)).Nodup
  vals : (d.vals.map (·.id)).Nodup
  flds : (d.flds.map (·.id)).Nodup
  bnds : (d.bnds.map (·.id)).Nodup

end WireP.Pipeline
