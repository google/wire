import WireP.Lemmas.CmdProofs
/-! For C18: histories of commands (`stepH`, `runH`).  The history before the last command plays no part:
each statement is `runH_snoc` and a fact about one `gen` (or `diff`) from an arbitrary state.  The vocabulary
of the statements of `WireP/Props/C18.lean` is defined here, in namespace `WireP.C18`, because the lemmas
need it. -/

namespace WireP.C18
open WireV

/-- analysis of variant `v` succeeds, every package free of errors and with non-empty Wire output.
    No proof uses `outs ≠ []`. -/
def GoodVariant (A : Nat → LoadRes) (v : Nat) : Prop :=
  ∃ outs, A v = .ok outs ∧ outs ≠ [] ∧ (outs.map (·.outPath)).Nodup ∧
    ∀ o ∈ outs, o.errs = false ∧ o.content ≠ 0

/-- the `<prefix>wire_gen.go` of each package -/
def outPaths : LoadRes → List Nat
  | .loadErr => []
  | .ok outs => outs.map (·.outPath)

/-- what `wire gen` leaves in a fresh checkout, which has no generated file -/
def freshFS (A : Nat → LoadRes) (v : Nat) : FS := (genExec true (A v) (fun _ => true) []).1

end WireP.C18

namespace WireP.CmdProofs
open WireV WireP.C18

theorem runH_nil (A : Nat → LoadRes) (hs : Nat) (s : HState) : runH A hs s [] = (s, []) := rfl

theorem runH_cons (A : Nat → LoadRes) (hs : Nat) (s : HState) (op : Op) (ops : List Op) :
    runH A hs s (op :: ops) =
      ((runH A hs (stepH A hs s op).1 ops).1, (stepH A hs s op).2 :: (runH A hs (stepH A hs s op).1 ops).2) := rfl

theorem runH_append (A : Nat → LoadRes) (hs : Nat) (s : HState) (ops ops' : List Op) :
    runH A hs s (ops ++ ops') =
      ((runH A hs (runH A hs s ops).1 ops').1, (runH A hs s ops).2 ++ (runH A hs (runH A hs s ops).1 ops').2) := by
  induction ops generalizing s with
  | nil => rfl
  | cons o ops ih => simp only [List.cons_append, runH_cons, ih]

theorem runH_snoc (A : Nat → LoadRes) (hs : Nat) (s : HState) (ops : List Op) (op : Op) :
    runH A hs s (ops ++ [op]) =
      ((stepH A hs (runH A hs s ops).1 op).1, (runH A hs s ops).2 ++ [(stepH A hs (runH A hs s ops).1 op).2]) :=
  runH_append A hs s ops [op]

theorem stepH_gen (A : Nat → LoadRes) (hs : Nat) (s : HState) :
    stepH A hs s .gen =
      ({ s with fs := (genExec true (A s.variant) (fun _ => true) s.fs).1 },
       some (genExec true (A s.variant) (fun _ => true) s.fs).2) := rfl

theorem stepH_gen_good (A : Nat → LoadRes) (hs : Nat) (s : HState) (outs : List PkgOut)
    (hA : A s.variant = .ok outs) (hnd : (outs.map (·.outPath)).Nodup)
    (hall : ∀ o ∈ outs, o.errs = false ∧ o.content ≠ 0) :
    (∀ o ∈ outs, fsGet (stepH A hs s .gen).1.fs o.outPath = some o.content) ∧
    (stepH A hs s .gen).2 = some 0 := by
  rw [stepH_gen, hA]
  exact ⟨fun o ho => gen_isolation outs _ s.fs o hnd ho (hall o ho).2 rfl,
    congrArg some ((gen_exit outs _ s.fs).mpr fun o ho => ⟨(hall o ho).1, fun _ => rfl⟩)⟩

theorem gen_other_paths (A : Nat → LoadRes) (hs : Nat) (s : HState) (p : Nat)
    (hp : p ∉ outPaths (A s.variant)) :
    fsGet (stepH A hs s .gen).1.fs p = fsGet s.fs p := by
  rw [stepH_gen]
  cases hA : A s.variant with
  | loadErr => rw [genExec_loadErr]
  | ok outs =>
    rw [hA] at hp
    exact gen_failed_untouched true outs _ s.fs p
      fun o ho hpo => absurd (hpo ▸ List.mem_map_of_mem ho) hp

/-! `gen_idempotent_list` is an equality of states, which `fsGet` cannot give: hence `genExec_good_list`. -/

def outEntries (outs : List PkgOut) : FS := outs.reverse.map (fun o => (o.outPath, o.content))

def restFS (outs : List PkgOut) (fs : FS) : FS :=
  fs.filter (fun kv => !(outs.map (·.outPath)).contains kv.1)

theorem genExec_good_list (outs : List PkgOut) (fs : FS)
    (hnd : (outs.map (·.outPath)).Nodup) (hc : ∀ o ∈ outs, o.content ≠ 0) :
    (genExec true (.ok outs) (fun _ => true) fs).1 = outEntries outs ++ restFS outs fs := by
  have hw : writes (fun _ => true) outs = outs.map fun o => (o.outPath, o.content) := by
    rw [writes, List.filter_eq_self.mpr fun o ho => by simpa using hc o ho]
  have hk : (outs.map fun o => (o.outPath, o.content)).map (·.1) = outs.map (·.outPath) := by
    rw [List.map_map]; rfl
  rw [genExec_ok, hw, putAll_of_nodup (hk ▸ hnd), hk, outEntries, restFS, List.map_reverse]

theorem restFS_outEntries_append (outs : List PkgOut) (fs : FS) :
    restFS outs (outEntries outs ++ restFS outs fs) = restFS outs fs := by
  have h1 : restFS outs (outEntries outs) = [] :=
    List.filter_eq_nil_iff.mpr fun kv hkv => by
      obtain ⟨o, ho, rfl⟩ := List.mem_map.mp hkv
      simpa using List.mem_map_of_mem (f := (·.outPath)) (List.mem_reverse.mp ho)
  have h2 : restFS outs (restFS outs fs) = restFS outs fs := by simp [restFS]
  rw [restFS, List.filter_append, ← restFS, ← restFS, h1, h2, List.nil_append]

theorem gen_idempotent_list (A : Nat → LoadRes) (hs v : Nat) (hg : GoodVariant A v) (s : HState)
    (hv : s.variant = v) :
    (stepH A hs (stepH A hs s .gen).1 .gen).1 = (stepH A hs s .gen).1 := by
  obtain ⟨outs, hA, _, hnd, hall⟩ := hg
  subst hv
  have hc : ∀ o ∈ outs, o.content ≠ 0 := fun o ho => (hall o ho).2
  simp only [stepH_gen, hA, genExec_good_list outs _ hnd hc, restFS_outEntries_append]

/-- at every path `gen` twice is `gen` once, whatever the variant and the state -/
theorem stepH_gen_gen (A : Nat → LoadRes) (hs : Nat) (s : HState) (p : Nat) :
    fsGet (stepH A hs (stepH A hs s .gen).1 .gen).1.fs p = fsGet (stepH A hs s .gen).1.fs p := by
  simp only [stepH_gen]
  cases hA : A s.variant with
  | loadErr => simp [genExec_loadErr]
  | ok outs =>
    simp only [genExec_ok, fsGet_putAll]
    cases (List.find? (fun e => e.1 == p) (writes (fun _ => true) outs).reverse) <;> simp

theorem gen_idempotent (A : Nat → LoadRes) (hs v : Nat) (hg : GoodVariant A v) (s : HState)
    (hv : s.variant = v) (p : Nat) :
    fsGet (stepH A hs (stepH A hs s .gen).1 .gen).1.fs p = fsGet (stepH A hs s .gen).1.fs p :=
  stepH_gen_gen A hs s p

theorem freshFS_list (A : Nat → LoadRes) (v : Nat) (outs : List PkgOut) (hA : A v = .ok outs)
    (hnd : (outs.map (·.outPath)).Nodup) (hc : ∀ o ∈ outs, o.content ≠ 0) :
    freshFS A v = outEntries outs := by
  rw [freshFS, hA, genExec_good_list outs [] hnd hc, restFS, List.filter_nil, List.append_nil]

theorem regen_fresh_partial (A : Nat → LoadRes) (hs v : Nat) (hg : GoodVariant A v)
    (s : HState) (ops : List Op) (hv : (runH A hs s ops).1.variant = v) :
    (∀ outs, A v = .ok outs → ∀ o ∈ outs,
        fsGet (runH A hs s (ops ++ [.gen])).1.fs o.outPath = some o.content) ∧
    (∀ p ∈ outPaths (A v), fsGet (runH A hs s (ops ++ [.gen])).1.fs p = fsGet (freshFS A v) p) ∧
    (runH A hs s (ops ++ [.gen])).2.getLast? = some (some 0) ∧
    (runH A hs s (ops ++ [.gen])).1.variant = v := by
  obtain ⟨outs, hA, _, hnd, hall⟩ := hg
  rw [runH_snoc]
  obtain ⟨key, h2⟩ := stepH_gen_good A hs (runH A hs s ops).1 outs (hv ▸ hA) hnd hall
  refine ⟨?_, ?_, by simp [h2], hv⟩
  · intro outs' hA2 o ho
    cases hA.symm.trans hA2
    exact key o ho
  · intro p hp
    rw [hA] at hp
    obtain ⟨o, ho, rfl⟩ := List.mem_map.mp hp
    rw [key o ho, freshFS, hA]
    exact (gen_isolation outs _ [] o hnd ho (hall o ho).2 rfl).symm

theorem diff_after_gen (A : Nat → LoadRes) (hs v : Nat) (hg : GoodVariant A v) (s : HState)
    (hv : s.variant = v) :
    (stepH A hs (stepH A hs s .gen).1 .diff).2 = some 0 := by
  obtain ⟨outs, hA, _, hnd, hall⟩ := hg
  subst hv
  have key := (stepH_gen_good A hs s outs hA hnd hall).1
  show some (diffExec hs true (A s.variant) _) = some 0
  rw [hA, diffExec_ok, if_neg (fun ⟨o, ho, he⟩ => by rw [(hall o ho).1] at he; cases he),
    if_neg (fun ⟨o, ho, _, hne⟩ => hne (key o ho))]

end WireP.CmdProofs
