import WireP.Lemmas.NameProofsDisamb
import WireV.NameEmit
/-! # The binders of an injector: `nameParams`, `nameSteps`, `nameInjector` (C14)

Every binder is chosen by `disambiguate` or `typeVariableName` against `ig.inInjector e`, that is
against the binders so far (`ig.all`) and the file scope (`scopeList e`).  So each choice keeps `Inv`,
and succeeds as long as the fuel exceeds `(ig.all ++ scopeList e).length`. -/
namespace WireP.NameProofs
open WireV

def scopeList (e : NameEnv) : List String := e.imports.map (·.2) ++ e.values ++ e.fileScope

theorem inFileScope_iff (e : NameEnv) (n : String) : e.inFileScope n = true ↔ n ∈ scopeList e := by
  simp [NameEnv.inFileScope, scopeList, or_assoc]

theorem inFileScope_false_iff (e : NameEnv) (n : String) :
    e.inFileScope n = false ↔ n ∉ scopeList e := by
  rw [← inFileScope_iff]; simp

theorem scopeList_length (e : NameEnv) :
    (scopeList e).length = e.imports.length + e.values.length + e.fileScope.length := by
  simp [scopeList, Nat.add_assoc]

theorem inInjector_iff (e : NameEnv) (ig : InjNames) (n : String) :
    ig.inInjector e n = true ↔ n ∈ ig.all ++ scopeList e := by
  simp [InjNames.inInjector, InjNames.all, ← inFileScope_iff, or_assoc]

def Inv (e : NameEnv) (ig : InjNames) : Prop :=
  ig.all.Nodup ∧ ∀ n ∈ ig.all, e.inFileScope n = false ∧ isKeyword n = false

theorem perm_insert (x a : String) (l₁ l₂ : List String) :
    (x :: (l₁ ++ a :: l₂)).Perm (a :: x :: (l₁ ++ l₂)) :=
  (List.perm_middle.cons x).trans (List.Perm.swap a x _)

theorem all_addParam (ig : InjNames) (a : String) :
    ({ ig with params := ig.params ++ [a] } : InjNames).all.Perm (a :: ig.all) := by
  simpa [InjNames.all] using perm_insert ig.errVar a ig.params (ig.locals ++ ig.cleanups)

theorem all_addLocal (ig : InjNames) (a : String) :
    ({ ig with locals := ig.locals ++ [a] } : InjNames).all.Perm (a :: ig.all) := by
  simpa [InjNames.all] using perm_insert ig.errVar a (ig.params ++ ig.locals) ig.cleanups

theorem all_addCleanup (ig : InjNames) (a : String) :
    ({ ig with cleanups := ig.cleanups ++ [a] } : InjNames).all.Perm (a :: ig.all) := by
  simpa [InjNames.all] using perm_insert ig.errVar a (ig.params ++ ig.locals ++ ig.cleanups) []

theorem Inv.push {e : NameEnv} {ig ig' : InjNames} {a : String} (hi : Inv e ig)
    (hp : ig'.all.Perm (a :: ig.all)) (ha : ig.inInjector e a = false ∧ isKeyword a = false) :
    Inv e ig' := by
  have hn : a ∉ ig.all ∧ a ∉ scopeList e := by
    rw [← not_or, ← List.mem_append, ← inInjector_iff, ha.1]; simp
  refine ⟨hp.nodup_iff.2 (List.nodup_cons.2 ⟨hn.1, hi.1⟩), fun n hn' => ?_⟩
  rcases List.mem_cons.1 (hp.mem_iff.1 hn') with rfl | hn'
  · exact ⟨(inFileScope_false_iff e _).2 hn.2, ha.2⟩
  · exact hi.2 n hn'

/-- what the fuel is compared with -/
def load (e : NameEnv) (ig : InjNames) : Nat := (ig.all ++ scopeList e).length

theorem load_push {e : NameEnv} {ig ig' : InjNames} {a : String} (hp : ig'.all.Perm (a :: ig.all)) :
    load e ig' = load e ig + 1 := by
  simp only [load, List.length_append, hp.length_eq, List.length_cons]; omega

theorem inInjector_cover (e : NameEnv) (ig : InjNames) (n : String)
    (h : ig.inInjector e n = true) : n ∈ ig.all ++ scopeList e :=
  (inInjector_iff e ig n).1 h

def paramChoice (fuel : Nat) (e : NameEnv) (ig : InjNames) (p : ParamInfo) : Option String :=
  if p.name == "" || p.name == "_"
  then typeVariableName fuel p.shape "arg" unexportName (ig.inInjector e)
  else disambiguate fuel p.name (ig.inInjector e)

theorem nameParams_cons (fuel e ig p ps) :
    nameParams fuel e ig (p :: ps) =
      match paramChoice fuel e ig p with
      | none => none
      | some a => nameParams fuel e { ig with params := ig.params ++ [a] } ps := rfl

theorem paramChoice_some {fuel e ig p a} (h : paramChoice fuel e ig p = some a) :
    ig.inInjector e a = false ∧ isKeyword a = false := by
  simp only [paramChoice] at h
  split at h
  · exact typeVariableName_some h
  · exact disambiguate_ok h

theorem paramChoice_isSome {fuel e ig} (p : ParamInfo) (hf : load e ig < fuel) :
    ∃ a, paramChoice fuel e ig p = some a := by
  simp only [paramChoice]
  split
  · exact typeVariableName_isSome _ _ _ (inInjector_cover e ig) hf
  · exact disambiguate_isSome _ (inInjector_cover e ig) hf

theorem nameParams_spec {fuel : Nat} {e : NameEnv} :
    ∀ (ps : List ParamInfo) (ig ig' : InjNames), nameParams fuel e ig ps = some ig' → Inv e ig →
      Inv e ig' ∧ ig'.errVar = ig.errVar ∧ ig'.params.length = ig.params.length + ps.length ∧
        ig'.locals = ig.locals ∧ ig'.cleanups = ig.cleanups
  | [], ig, ig', h, hi => by
    cases h; exact ⟨hi, rfl, rfl, rfl, rfl⟩
  | p :: ps, ig, ig', h, hi => by
    rw [nameParams_cons] at h
    split at h
    · cases h
    · rename_i a ha
      obtain ⟨h1, h2, h3, h4⟩ :=
        nameParams_spec ps _ ig' h (hi.push (all_addParam ig a) (paramChoice_some ha))
      refine ⟨h1, h2, ?_, h4⟩
      simp only [List.length_append, List.length_cons, List.length_nil] at h3 ⊢; omega

theorem nameParams_isSome {fuel : Nat} {e : NameEnv} :
    ∀ (ps : List ParamInfo) (ig : InjNames), load e ig + ps.length ≤ fuel →
      ∃ ig', nameParams fuel e ig ps = some ig' ∧ load e ig' = load e ig + ps.length
  | [], ig, _ => ⟨ig, rfl, rfl⟩
  | p :: ps, ig, hf => by
    rw [List.length_cons] at hf
    obtain ⟨a, ha⟩ := paramChoice_isSome (fuel := fuel) (e := e) (ig := ig) p (by omega)
    have hl := load_push (e := e) (all_addParam ig a)
    obtain ⟨ig', h, hl'⟩ := nameParams_isSome (fuel := fuel) (e := e) ps
      { ig with params := ig.params ++ [a] } (by rw [hl]; omega)
    exact ⟨ig', by rw [nameParams_cons, ha]; exact h, by rw [hl', hl, List.length_cons]; omega⟩

/-- the binders of one planned call: a local variable and, for a provider function with a cleanup,
    a cleanup variable -/
def stepChoice (fuel : Nat) (e : NameEnv) (ig : InjNames) (s : StepInfo) : Option InjNames :=
  match typeVariableName fuel s.shape "v" unexportName (ig.inInjector e) with
  | none => none
  | some l =>
    let ig1 := { ig with locals := ig.locals ++ [l] }
    if s.isFunc && s.hasCleanup then
      match disambiguate fuel "cleanup" (ig1.inInjector e) with
      | none => none
      | some c => some { ig1 with cleanups := ig1.cleanups ++ [c] }
    else some ig1

theorem nameSteps_cons (fuel e ig s ss) :
    nameSteps fuel e ig (s :: ss) =
      match stepChoice fuel e ig s with
      | none => none
      | some ig' => nameSteps fuel e ig' ss := by
  simp only [nameSteps, stepChoice]
  cases typeVariableName fuel s.shape "v" unexportName (ig.inInjector e) with
  | none => rfl
  | some l =>
    cases s.isFunc && s.hasCleanup with
    | false => rfl
    | true =>
      simp only [if_true]
      cases disambiguate fuel "cleanup" _ <;> rfl

def cleanupSteps (ss : List StepInfo) : List StepInfo := ss.filter (fun s => s.isFunc && s.hasCleanup)

theorem stepChoice_some {fuel e ig s ig'} (h : stepChoice fuel e ig s = some ig') (hi : Inv e ig) :
    Inv e ig' ∧ ig'.errVar = ig.errVar ∧ ig'.params = ig.params ∧
      ig'.locals.length = ig.locals.length + 1 ∧
      ig'.cleanups.length = ig.cleanups.length + (cleanupSteps [s]).length := by
  simp only [stepChoice] at h
  split at h
  · cases h
  · rename_i l hl
    have hi1 := hi.push (all_addLocal ig l) (typeVariableName_some hl)
    split at h
    · rename_i hcl
      split at h
      · cases h
      · rename_i c hc
        cases h
        exact ⟨hi1.push (all_addCleanup { ig with locals := ig.locals ++ [l] } c) (disambiguate_ok hc),
          rfl, rfl, by simp,
          by simp [cleanupSteps, hcl]⟩
    · rename_i hcl
      cases h
      exact ⟨hi1, rfl, rfl, by simp, by simp [cleanupSteps, hcl]⟩

theorem stepChoice_isSome {fuel e ig} (s : StepInfo) (hf : load e ig + 2 ≤ fuel) :
    ∃ ig', stepChoice fuel e ig s = some ig' ∧ load e ig' ≤ load e ig + 2 := by
  obtain ⟨l, hl⟩ := typeVariableName_isSome (fuel := fuel) s.shape "v" unexportName
    (inInjector_cover e ig) (show load e ig < fuel by omega)
  have h1 := load_push (e := e) (all_addLocal ig l)
  simp only [stepChoice, hl]
  split
  · obtain ⟨c, hc⟩ := disambiguate_isSome (fuel := fuel) "cleanup"
      (inInjector_cover e { ig with locals := ig.locals ++ [l] }) (show load e _ < fuel by omega)
    simp only [hc]
    exact ⟨_, rfl, by
      rw [load_push (all_addCleanup { ig with locals := ig.locals ++ [l] } c), h1]; omega⟩
  · exact ⟨_, rfl, by omega⟩

theorem nameSteps_spec {fuel : Nat} {e : NameEnv} :
    ∀ (ss : List StepInfo) (ig ig' : InjNames), nameSteps fuel e ig ss = some ig' → Inv e ig →
      Inv e ig' ∧ ig'.errVar = ig.errVar ∧ ig'.params = ig.params ∧
        ig'.locals.length = ig.locals.length + ss.length ∧
        ig'.cleanups.length = ig.cleanups.length + (cleanupSteps ss).length
  | [], ig, ig', h, hi => by
    cases h; exact ⟨hi, rfl, rfl, rfl, rfl⟩
  | s :: ss, ig, ig', h, hi => by
    rw [nameSteps_cons] at h
    split at h
    · cases h
    · rename_i ig1 h1
      obtain ⟨a1, a2, a3, a4, a5⟩ := stepChoice_some h1 hi
      obtain ⟨b1, b2, b3, b4, b5⟩ := nameSteps_spec ss ig1 ig' h a1
      refine ⟨b1, b2.trans a2, b3.trans a3, ?_, ?_⟩
      · rw [b4, a4, List.length_cons]; omega
      · rw [b5, a5, show cleanupSteps (s :: ss) = cleanupSteps [s] ++ cleanupSteps ss from
          List.filter_append (l₁ := [s]) ..,  List.length_append]; omega

theorem nameSteps_isSome {fuel : Nat} {e : NameEnv} :
    ∀ (ss : List StepInfo) (ig : InjNames), load e ig + 2 * ss.length ≤ fuel →
      ∃ ig', nameSteps fuel e ig ss = some ig'
  | [], ig, _ => ⟨ig, rfl⟩
  | s :: ss, ig, hf => by
    rw [List.length_cons] at hf
    obtain ⟨ig1, h1, hl⟩ := stepChoice_isSome (fuel := fuel) (e := e) (ig := ig) s (by omega)
    rw [nameSteps_cons, h1]
    exact nameSteps_isSome ss ig1 (by omega)

theorem Inv.init {fuel : Nat} {e : NameEnv} {ev : String}
    (h : disambiguate fuel "err" e.inFileScope = some ev) : Inv e { errVar := ev } := by
  refine ⟨by simp [InjNames.all], fun n hn => ?_⟩
  have : n = ev := by simpa [InjNames.all] using hn
  exact this ▸ disambiguate_ok h

theorem nameInjector_spec {fuel : Nat} {e : NameEnv} {ps : List ParamInfo} {ss : List StepInfo}
    {ig : InjNames} (h : nameInjector fuel e ps ss = some ig) :
    Inv e ig ∧ disambiguate fuel "err" e.inFileScope = some ig.errVar ∧
      ig.params.length = ps.length ∧ ig.locals.length = ss.length ∧
      ig.cleanups.length = (cleanupSteps ss).length := by
  unfold nameInjector at h
  cases hev : disambiguate fuel "err" e.inFileScope with
  | none => rw [hev] at h; cases h
  | some ev =>
    rw [hev] at h
    cases hp : nameParams fuel e { errVar := ev } ps with
    | none => simp only [hp] at h; cases h
    | some ig1 =>
      simp only [hp] at h
      obtain ⟨a1, a2, a3, a4, a5⟩ := nameParams_spec ps _ ig1 hp (Inv.init hev)
      obtain ⟨b1, b2, b3, b4, b5⟩ := nameSteps_spec ss ig1 ig h a1
      refine ⟨b1, by rw [b2, a2], ?_, ?_, ?_⟩
      · rw [b3, a3]; simp
      · rw [b4, a4]; simp
      · rw [b5, a5]; simp

theorem nameInjector_isSome {fuel : Nat} {e : NameEnv} (ps : List ParamInfo) (ss : List StepInfo)
    (hf : (scopeList e).length + 1 + ps.length + 2 * ss.length ≤ fuel) :
    ∃ ig, nameInjector fuel e ps ss = some ig := by
  obtain ⟨ev, hev⟩ := disambiguate_isSome (fuel := fuel) "err" (fun n => (inFileScope_iff e n).1)
    (by omega)
  have h0 : load e { errVar := ev } = (scopeList e).length + 1 := by
    simp [load, InjNames.all]
  obtain ⟨ig1, hp, h1⟩ := nameParams_isSome (fuel := fuel) (e := e) ps { errVar := ev } (by omega)
  obtain ⟨ig, hs⟩ := nameSteps_isSome (fuel := fuel) (e := e) ss ig1 (by omega)
  exact ⟨ig, by rw [nameInjector, hev]; simp only [hp, hs]⟩

end WireP.NameProofs
