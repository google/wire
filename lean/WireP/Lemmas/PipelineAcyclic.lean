import WireP.Lemmas.AcyclicDefs
import WireP.Lemmas.AcyclicTerm
import WireP.Lemmas.SolveDefs
/-! The detector's "no cycle" is the planner's "well-founded".  `Cyclic (succOf pm)` speaks about the graph
`verifyAcyclic` walks (key → parameters of the entry), `Acyclic pm` about the relation the planner follows
(binding key → concrete type → parameters).  Under `ConcClosed` the two coincide. -/
namespace WireP.PipelineProofs
open WireV WireP.C07 WireP.Solve WireP.AcyclicProofs

theorem path_trans {succ : Ty → List Ty} {a b c : Ty} (h : Path succ a b) (h2 : Path succ b c) :
    Path succ a c := by
  induction h with
  | single h => exact .cons h h2
  | cons h _ ih => exact .cons h (ih h2)

/-- Pigeonhole: `anc` lists distinct ancestors of `t`, all in the carrier; `k` bounds how many more there
    can be.  On the way down to a successor of `t`, `t` itself joins the list: it is not in `anc`, since
    a path from `t` to `t` would be a cycle. -/
theorem acc_of_ancestors {succ : Ty → List Ty} (carrier : List Ty)
    (hsupp : ∀ t, succ t ≠ [] → t ∈ carrier) (hnc : ¬ Cyclic succ) :
    ∀ (k : Nat) (anc : List Ty) (t : Ty), anc.Nodup → anc ⊆ carrier →
      carrier.length < anc.length + k → (∀ a ∈ anc, Path succ a t) →
      Acc (fun u t => u ∈ succ t) t := by
  intro k
  induction k with
  | zero => intro anc t hnd hsub hlen; have := hnd.length_le_of_subset hsub; omega
  | succ k ih =>
    intro anc t hnd hsub hlen hpath
    refine Acc.intro _ (fun u hu => ?_)
    refine ih (t :: anc) u (List.nodup_cons.mpr ⟨fun hm => hnc ⟨t, hpath t hm⟩, hnd⟩)
      (List.cons_subset.mpr ⟨hsupp t (List.ne_nil_of_mem hu), hsub⟩)
      (by simp only [List.length_cons]; omega) ?_
    intro a ha
    rcases List.mem_cons.mp ha with rfl | ha
    · exact .single hu
    · exact path_trans (hpath a ha) (.single hu)

theorem wf_of_not_cyclic {succ : Ty → List Ty} (carrier : List Ty)
    (hsupp : ∀ t, succ t ≠ [] → t ∈ carrier) (hnc : ¬ Cyclic succ) :
    WellFounded (fun u t => u ∈ succ t) :=
  ⟨fun t => acc_of_ancestors carrier hsupp hnc (carrier.length + 1) [] t List.nodup_nil
    (List.nil_subset _) (by simp) (by simp)⟩

theorem succOf_wf {pm : PMap} (hnc : ¬ Cyclic (succOf pm)) :
    WellFounded (fun u t => u ∈ succOf pm t) :=
  wf_of_not_cyclic (pm.map (·.1)) (succOf_supp pm) hnc

theorem dep_conc {pm : PMap} {t u : Ty} {pt : PT} (hl : look t pm = some pt) (hc : pt.t = t)
    (h : dep pm t u) : u ∈ succOf pm t := by
  obtain ⟨pt', hl', hd⟩ := h
  rw [hl] at hl'
  cases hl'
  rcases hd with ⟨h1, _⟩ | ⟨_, h2⟩
  · exact absurd hc h1
  · rw [succOf_of_look hl]; exact h2

theorem acyclic_of_not_cyclic {pm : PMap} (hcc : ConcClosed pm) (hnc : ¬ Cyclic (succOf pm)) :
    Acyclic pm := by
  refine ⟨fun t => ?_⟩
  induction t using (succOf_wf hnc).induction with
  | _ t ih =>
    refine Acc.intro _ (fun u hu => ?_)
    obtain ⟨pt, hl, hd⟩ := hu
    rcases hd with ⟨hb, rfl⟩ | ⟨hc, hmem⟩
    · -- binding key: one more step reaches the parameters of the shared entry
      have hl2 := hcc t pt hl
      refine Acc.intro _ (fun v hv => ?_)
      have : v ∈ succOf pm pt.t := dep_conc hl2 rfl hv
      rw [succOf_of_look hl2, ← succOf_of_look hl] at this
      exact ih v this
    · exact ih u (by rw [succOf_of_look hl]; exact hmem)

theorem path_transGen {succ : Ty → List Ty} {a b : Ty} (h : Path succ a b) :
    Relation.TransGen (fun u t => u ∈ succ t) b a := by
  induction h with
  | single h => exact .single h
  | cons h _ ih => exact ih.tail h

theorem not_cyclic_of_wf {succ : Ty → List Ty} (h : WellFounded fun u t => u ∈ succ t) :
    ¬ Cyclic succ :=
  fun ⟨a, ha⟩ => not_transGen_self h a (path_transGen ha)

/-- An edge of the detector's graph is one or, out of a binding key, two steps of the planner's
    relation: through the concrete type, which has the same entry. -/
theorem succOf_dep {pm : PMap} (hcc : ConcClosed pm) {t u : Ty} (h : u ∈ succOf pm t) :
    Relation.TransGen (fun u t => dep pm t u) u t := by
  cases hl : look t pm with
  | none => rw [succOf_of_none hl] at h; cases h
  | some pt =>
    rw [succOf_of_look hl] at h
    by_cases hc : pt.t = t
    · exact .single ⟨pt, hl, .inr ⟨hc, h⟩⟩
    · exact .tail (.single ⟨pt, hcc t pt hl, .inr ⟨rfl, h⟩⟩) ⟨pt, hl, .inl ⟨hc, rfl⟩⟩

theorem not_cyclic_of_acyclic {pm : PMap} (hcc : ConcClosed pm) (h : Acyclic pm) :
    ¬ Cyclic (succOf pm) :=
  not_cyclic_of_wf (Subrelation.wf (succOf_dep hcc) h.transGen)

end WireP.PipelineProofs
