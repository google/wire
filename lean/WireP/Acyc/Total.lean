import WireP.Lemmas.AcyclicProofs
/-! The counter version `WV` of the cycle detector: a bare graph, errors counted and not listed.  `WV.step`
is `acStep` with the text of the diagnostics forgotten (`step_sim`), so the two machines run in lockstep
and `WV.verifyAcyclic_spec` is `acIter_halts` with `acIter_spec`. -/
namespace WV

abbrev Ty := Nat

structure Graph where
  succ : Ty → List Ty

def kidsN (g : Graph) (trail : List Ty) (h : Ty) : List Ty :=
  (g.succ h).filter (fun a => decide (a ∉ trail))

def back (g : Graph) (trail : List Ty) (h : Ty) : Nat :=
  ((g.succ h).filter (fun a => decide (a ∈ trail))).length

/-- White path: every node on it, both ends included, is outside `vis`.  Only used with `vis = []`, where
    it is a path of any length, zero included. -/
inductive WPath (g : Graph) (vis : List Ty) : Ty → Ty → Prop
  | refl (a : Ty) : a ∉ vis → WPath g vis a a
  | step {a b c : Ty} : a ∉ vis → b ∈ g.succ a → WPath g vis b c → WPath g vis a c

def HasCycle (g : Graph) : Prop := ∃ c x, WPath g [] c x ∧ c ∈ g.succ x

def Closed (g : Graph) (univ : List Ty) : Prop := ∀ u, u ∈ univ → ∀ a, a ∈ g.succ u → a ∈ univ

structure St where
  visited : List Ty
  stk : List (List Ty)
  errs : Nat

/-- The stack machine, as in analyze.go: pop a trail, skip if its head is visited, otherwise
    mark it, report one error per successor on the trail, push the other successors. -/
def step (g : Graph) (s : St) : Option St :=
  match s.stk with
  | [] => none
  | [] :: rest => some { s with stk := rest }
  | (h :: t) :: rest =>
    if h ∈ s.visited then some { s with stk := rest }
    else some { visited := h :: s.visited
                stk := ((kidsN g (h :: t) h).map (fun a => a :: h :: t)).reverse ++ rest
                errs := s.errs + back g (h :: t) h }

def iter (g : Graph) : Nat → St → Option St
  | 0, s => some s
  | n + 1, s => (step g s).bind (iter g n)

end WV

namespace WireP.AcyclicProofs
open WireV WireP.C07

def toWV (s : AcSt) : WV.St := ⟨s.visited, s.stk, s.errs.length⟩

theorem step_sim (g : WV.Graph) (s : AcSt) : WV.step g (toWV s) = (acStep g.succ s).map toWV := by
  obtain ⟨vis, stk, errs⟩ := s
  match stk with
  | [] => rfl
  | [] :: rest => rfl
  | (h :: t) :: rest =>
    by_cases hh : h ∈ vis
    · simp [WV.step, acStep, toWV, hh]
    · simp [WV.step, acStep, toWV, hh, WV.kidsN, WV.back]

theorem path_of_wpath {g : WV.Graph} {a x c : Ty} (h : WV.WPath g [] a x) (hc : c ∈ g.succ x) :
    Path g.succ a c := by
  induction h with
  | refl a _ => exact Path.single hc
  | step _ hab _ ih => exact Path.cons hab (ih hc)

theorem wpath_of_path {g : WV.Graph} {a c : Ty} (h : Path g.succ a c) :
    ∃ x, WV.WPath g [] a x ∧ c ∈ g.succ x := by
  induction h with
  | @single a b hab => exact ⟨a, WV.WPath.refl a (by simp), hab⟩
  | @cons a b c hab _ ih =>
    obtain ⟨x, hbx, hxc⟩ := ih
    exact ⟨x, WV.WPath.step (by simp) hab hbx, hxc⟩

theorem hasCycle_iff_cyclic (g : WV.Graph) : WV.HasCycle g ↔ Cyclic g.succ :=
  ⟨fun ⟨c, _, hcx, hxc⟩ => ⟨c, path_of_wpath hcx hxc⟩,
   fun ⟨a, ha⟩ => let ⟨x, hax, hxa⟩ := wpath_of_path ha; ⟨a, x, hax, hxa⟩⟩

end WireP.AcyclicProofs

namespace WV
open WireV WireP WireP.AcyclicProofs

/-- `verifyAcyclic`, end to end: started on roots that contain every node with successors, the machine
    reaches the empty stack, and its error count is positive iff the graph has a cycle.  The proof does
    not use `hc` and `hr`: `hkeys` alone bounds the run. -/
theorem verifyAcyclic_spec (g : Graph) (univ roots : List Ty)
    (hc : Closed g univ) (hr : ∀ r, r ∈ roots → r ∈ univ)
    (hkeys : ∀ a, g.succ a ≠ [] → a ∈ roots) :
    ∃ n vf ef, iter g n ⟨[], roots.map (fun r => [r]), 0⟩ = some ⟨vf, [], ef⟩ ∧
      (0 < ef ↔ HasCycle g) := by
  obtain ⟨n0, hstk⟩ : ∃ n0, (acIter g.succ n0 (acInit roots)).stk = [] :=
    ⟨_, acIter_halts hkeys roots (Nat.le_refl _)⟩
  have hspec := acIter_spec hkeys hstk
  rw [acIter_eq] at hstk hspec
  obtain ⟨m, _, hm⟩ := Iter.runO_of_run (step := acStep g.succ) n0 (acInit roots)
  have hsim := Iter.runO_map toWV (step_sim g) m (acInit roots)
  rw [hm, ← Iter.runO_unique (it := iter g) (fun _ => rfl) (fun _ _ => rfl)] at hsim
  refine ⟨m, _, _, hsim.trans (by rw [Option.map_some, toWV, hstk]), ?_⟩
  rw [hasCycle_iff_cyclic, List.length_pos_iff, ne_eq, hspec, Classical.not_not]

end WV
