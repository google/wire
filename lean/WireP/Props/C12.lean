import WireP.Lemmas.FrontProofs
import WireP.Lemmas.SigProofs
import WireP.Lemmas.ListAux
/-! # C12 — field selection of `wire.Struct` / `wire.FieldsOf`

Model: `WireV.checkField`, `allFields`, `structArgs`, `structProviderArgs`, `fieldsOfArgs` (parse.go: checkField,
allFields, processStructProvider, processFieldsOf).  A field argument is a string literal (`.str s`) or anything else
(`.other`); the struct's fields come in declaration order with their `wire:"-"` tag (`prevented`) and whether they are
`hidden` (unexported and declared by another package than the struct type, as in `type S other.T`: nothing outside
`other` can set such a field).  A blank field (name exactly `"_"`) is never selected, neither by `"*"` nor by name.
`wire.Struct` refuses a hidden field, named or reached by `"*"`; `wire.FieldsOf` reads fields and is not concerned.

The theorems that assume `(fs.map (·.name)).Nodup` say nothing about a struct that declares several `_` fields (Go
allows that), although `checkField` never looks at a `_` field. -/
namespace WireP.C12
open WireV WireP.FrontProofs

theorem checkField_exact {fs : List FieldDecl} {s : String} {f : FieldDecl} :
    checkField fs (.str s) = .ok f → f ∈ fs ∧ f.name = s ∧ f.prevented = false ∧ f.name ≠ "_" :=
  FrontProofs.checkField_exact

theorem checkField_unknown_iff {fs : List FieldDecl} {s : String} :
    checkField fs (.str s) = .error (.notField s) ↔ (s = "_" ∨ ∀ f ∈ fs, f.name ≠ s) := by
  by_cases hs : s = "_"
  · simp [hs, FrontProofs.checkField_blank]
  · have : (∀ f ∈ fs, f.name ≠ s) ↔ fs.find? (·.name == s) = none := by simp
    rw [checkField_str fs hs, this]
    cases fs.find? (·.name == s) with
    | none => simp
    | some g => by_cases hp : g.prevented = true <;> simp [hs, hp]

theorem checkField_unknown {fs : List FieldDecl} {s : String} :
    (s = "_" ∨ ∀ f ∈ fs, f.name ≠ s) → checkField fs (.str s) = .error (.notField s) :=
  checkField_unknown_iff.mpr

theorem checkField_blank (fs : List FieldDecl) : checkField fs (.str "_") = .error (.notField "_") :=
  FrontProofs.checkField_blank fs

theorem checkField_prevented {fs : List FieldDecl} {s : String} {f : FieldDecl} :
    (fs.map (·.name)).Nodup → f ∈ fs → f.name = s → s ≠ "_" → f.prevented = true →
      checkField fs (.str s) = .error (.prevented s) := by
  rintro hnd hf rfl hb hp
  simp [checkField_str fs hb, (find?_key_eq_some_iff hnd).mpr ⟨hf, rfl⟩, hp]

theorem checkField_found {fs : List FieldDecl} {f : FieldDecl} :
    (fs.map (·.name)).Nodup → f ∈ fs → f.name ≠ "_" → f.prevented = false →
      checkField fs (.str f.name) = .ok f :=
  fun hnd hf hb hp => checkField_ok_iff.mpr ⟨rfl, (find?_key_eq_some_iff hnd).mpr ⟨hf, rfl⟩, hp, hb⟩

theorem checkField_nonliteral (fs : List FieldDecl) : checkField fs .other = .error .notString :=
  rfl

/-- matching is case sensitive -/
theorem checkField_case_sensitive :
    checkField [⟨"foo", 0, false, false⟩, ⟨"Foo", 1, false, false⟩] (.str "Foo") = .ok ⟨"Foo", 1, false, false⟩ ∧
    checkField [⟨"foo", 0, false, false⟩, ⟨"Foo", 1, false, false⟩] (.str "FOO") = .error (.notField "FOO") := by
  decide

theorem checkField_rejects {fs : List FieldDecl} {a : FieldArg}
    (h : a = .other ∨ ∃ s, a = .str s ∧ (s = "_" ∨ (∀ f ∈ fs, f.name ≠ s) ∨
      ∃ f ∈ fs, f.name = s ∧ f.prevented ∧ (fs.map (·.name)).Nodup)) :
    ∃ e, checkField fs a = .error e := by
  rcases h with rfl | ⟨s, rfl, hb | h | ⟨f, hf, hn, hp, hnd⟩⟩
  · exact ⟨_, rfl⟩
  · exact ⟨_, checkField_unknown (.inl hb)⟩
  · exact ⟨_, checkField_unknown (.inr h)⟩
  · by_cases hb : s = "_"
    · exact ⟨_, checkField_unknown (.inl hb)⟩
    · exact ⟨_, checkField_prevented hnd hf hn hb hp⟩

theorem structField_ok_iff {fs : List FieldDecl} {a : FieldArg} {f : FieldDecl} :
    structField fs a = .ok f ↔ checkField fs a = .ok f ∧ f.hidden = false := by
  unfold structField
  cases checkField fs a with
  | error e => simp
  | ok g =>
    cases hh : g.hidden <;>
      simp only [hh, if_true, Bool.false_eq_true, if_false, Except.ok.injEq, reduceCtorEq, false_iff, not_and]
    · exact ⟨fun h => ⟨h, h ▸ hh⟩, (·.1)⟩
    · rintro rfl; simp [hh]

theorem structField_ok_name {fs : List FieldDecl} {a : FieldArg} {f : FieldDecl}
    (h : structField fs a = .ok f) :
    a = FieldArg.str f.name ∧ f ∈ fs ∧ f.prevented = false ∧ f.name ≠ "_" ∧ f.hidden = false :=
  have ⟨hc, hh⟩ := structField_ok_iff.mp h
  have ⟨h1, h2, h3, h4⟩ := checkField_ok_name hc
  ⟨h1, h2, h3, h4, hh⟩

/-- in particular `prevented` is reported before `hidden` -/
theorem structField_error_passes {fs : List FieldDecl} {a : FieldArg} {e : FieldErr} :
    checkField fs a = .error e → structField fs a = .error e := by
  intro h; simp [structField, h]

theorem structField_hidden {fs : List FieldDecl} {s : String} {f : FieldDecl} :
    (fs.map (·.name)).Nodup → f ∈ fs → f.name = s → s ≠ "_" → f.prevented = false → f.hidden = true →
      structField fs (.str s) = .error (.hidden s) := by
  rintro hnd hf rfl hb hp hh
  simp [structField, checkField_found hnd hf hb hp, hh]

theorem structField_found {fs : List FieldDecl} {f : FieldDecl} :
    (fs.map (·.name)).Nodup → f ∈ fs → f.name ≠ "_" → f.prevented = false → f.hidden = false →
      structField fs (.str f.name) = .ok f :=
  fun hnd hf hb hp hh => structField_ok_iff.mpr ⟨checkField_found hnd hf hb hp, hh⟩

theorem structField_rejects {fs : List FieldDecl} {a : FieldArg}
    (h : a = .other ∨ ∃ s, a = .str s ∧ (s = "_" ∨ (∀ f ∈ fs, f.name ≠ s) ∨
      (∃ f ∈ fs, f.name = s ∧ f.prevented ∧ (fs.map (·.name)).Nodup) ∨
      (∃ f ∈ fs, f.name = s ∧ f.hidden ∧ (fs.map (·.name)).Nodup))) :
    ∃ e, structField fs a = .error e := by
  have lift : (∃ e, checkField fs a = .error e) → ∃ e, structField fs a = .error e :=
    fun ⟨e, he⟩ => ⟨e, structField_error_passes he⟩
  rcases h with h | ⟨s, rfl, h | h | h | ⟨f, hf, hn, hh, hnd⟩⟩
  · exact lift (checkField_rejects (.inl h))
  · exact lift (checkField_rejects (.inr ⟨s, rfl, .inl h⟩))
  · exact lift (checkField_rejects (.inr ⟨s, rfl, .inr (.inl h)⟩))
  · exact lift (checkField_rejects (.inr ⟨s, rfl, .inr (.inr h)⟩))
  · by_cases hb : s = "_"
    · exact lift (checkField_rejects (.inr ⟨s, rfl, .inl hb⟩))
    · cases hp : f.prevented with
      | true => exact lift ⟨_, checkField_prevented hnd hf hn hb hp⟩
      | false => exact ⟨_, structField_hidden hnd hf hn hb hp hh⟩

theorem structArgs_star {fs sel : List FieldDecl} :
    structArgs fs [.str "*"] = .ok sel ↔
      sel = fs.filter (fun f => !f.prevented && f.name != "_") ∧ ∀ f ∈ sel, f.hidden = false :=
  FrontProofs.structArgs_star

/-- the error of `"*"` names the first field, in declaration order, that it stands for and that is hidden -/
theorem structArgs_star_error {fs : List FieldDecl} {e : FieldErr} :
    structArgs fs [.str "*"] = .error e ↔
      ∃ pre f post, fs = pre ++ f :: post ∧
        (f.prevented = false ∧ f.name ≠ "_" ∧ f.hidden = true) ∧
        (∀ g ∈ pre, g.prevented = false → g.name ≠ "_" → g.hidden = false) ∧
        e = .hidden f.name := by
  have : structArgs fs [.str "*"] = .error e ↔ ∃ f, fs.find? (fun f =>
      decide (f.prevented = false ∧ f.name ≠ "_" ∧ f.hidden = true)) = some f ∧ e = .hidden f.name := by
    rw [structArgs_star_eq]
    cases fs.find? _ with
    | none => simp
    | some g => exact ⟨fun h => ⟨g, rfl, by cases h; rfl⟩, fun ⟨f, h1, h2⟩ => by cases h1; rw [h2]⟩
  simp only [this, List.find?_eq_some_iff_append, decide_eq_true_eq, Bool.not_eq_true', decide_eq_false_iff_not,
    not_and, Bool.not_eq_true]
  exact ⟨fun ⟨f, ⟨hf, pre, post, hfs, hpre⟩, he⟩ => ⟨pre, f, post, hfs, hf, hpre, he⟩,
    fun ⟨pre, f, post, hfs, hf, hpre, he⟩ => ⟨f, ⟨hf, pre, post, hfs, hpre⟩, he⟩⟩

theorem structArgs_star_hidden {fs : List FieldDecl} :
    (∃ f ∈ fs, f.prevented = false ∧ f.name ≠ "_" ∧ f.hidden = true) →
      ∃ n, structArgs fs [.str "*"] = .error (.hidden n) := by
  rintro ⟨f, hf, hp, hb, hh⟩
  rw [structArgs_star_eq]
  cases hg : fs.find? _ with
  | some g => exact ⟨g.name, rfl⟩
  | none => exact absurd (List.find?_eq_none.mp hg f hf) (by simp [hp, hb, hh])

theorem structArgs_star_sound {fs sel : List FieldDecl} :
    structArgs fs [.str "*"] = .ok sel →
      ∀ f ∈ sel, f ∈ fs ∧ f.prevented = false ∧ f.name ≠ "_" ∧ f.hidden = false := by
  intro h f hf
  obtain ⟨rfl, hhid⟩ := structArgs_star.mp h
  have : f ∈ fs ∧ f.prevented = false ∧ f.name ≠ "_" := by simpa [List.mem_filter] using hf
  exact ⟨this.1, this.2.1, this.2.2, hhid f hf⟩

theorem structArgs_star_complete {fs sel : List FieldDecl} :
    structArgs fs [.str "*"] = .ok sel → ∀ f ∈ fs, f.prevented = false → f.name ≠ "_" → f ∈ sel := by
  intro h f hf hp hb
  obtain ⟨rfl, _⟩ := structArgs_star.mp h
  simp [List.mem_filter, hf, hp, hb]

theorem structArgs_star_order {fs sel : List FieldDecl} :
    structArgs fs [.str "*"] = .ok sel → sel.Sublist fs := by
  intro h
  obtain ⟨rfl, _⟩ := structArgs_star.mp h
  exact List.filter_sublist

theorem structArgs_named {fs : List FieldDecl} {args : List FieldArg} {sel : List FieldDecl} :
    allFields args = false → structArgs fs args = .ok sel →
      sel.length = args.length ∧ ∀ (i : Nat) a f, args[i]? = some a → sel[i]? = some f →
        a = FieldArg.str f.name ∧ f ∈ fs ∧ f.prevented = false ∧ f.name ≠ "_" ∧ f.hidden = false := by
  intro hall h
  rw [structArgs_named_eq fs hall] at h
  have ⟨hl, hg⟩ := mapM_ok_get h
  exact ⟨hl, fun i a f ha hf => structField_ok_name (hg i a f ha hf)⟩

/-- no accepted `wire.Struct` sets a field its package cannot name -/
theorem structArgs_never_hidden {fs : List FieldDecl} {args : List FieldArg} {sel : List FieldDecl} :
    structArgs fs args = .ok sel → ∀ f ∈ sel, f.hidden = false := by
  intro h f hf
  cases hall : allFields args with
  | true =>
    rw [show args = [.str "*"] by simpa [allFields] using hall] at h
    exact (structArgs_star.mp h).2 f hf
  | false =>
    rw [structArgs_named_eq fs hall] at h
    obtain ⟨a, _, ha⟩ := mapM_ok_mem h hf
    exact (structField_ok_iff.mp ha).2

theorem structArgs_hidden_rejected {fs : List FieldDecl} {args : List FieldArg} {s : String} {f : FieldDecl} :
    allFields args = false → FieldArg.str s ∈ args → s ≠ "_" → (fs.map (·.name)).Nodup →
      f ∈ fs → f.name = s → f.prevented = false → f.hidden = true →
      ∃ e, structArgs fs args = .error e := by
  intro hall ha hb hnd hf hn hp hh
  rw [structArgs_named_eq fs hall]
  exact mapM_error_of_mem ha ⟨_, structField_hidden hnd hf hn hb hp hh⟩

theorem structArgs_hidden_first {fs : List FieldDecl} {pre post : List FieldArg} {s : String} {f : FieldDecl} :
    allFields (pre ++ .str s :: post) = false → (∀ a ∈ pre, ∃ g, structField fs a = .ok g) → s ≠ "_" →
      (fs.map (·.name)).Nodup → f ∈ fs → f.name = s → f.prevented = false → f.hidden = true →
      structArgs fs (pre ++ .str s :: post) = .error (.hidden s) := by
  intro hall hpre hb hnd hf hn hp hh
  rw [structArgs_named_eq fs hall]
  exact mapM_error_first post hpre (structField_hidden hnd hf hn hb hp hh)

theorem structArgs_rejects {fs : List FieldDecl} {args : List FieldArg} {a : FieldArg} :
    allFields args = false → a ∈ args →
      (a = .other ∨ ∃ s, a = .str s ∧ (s = "_" ∨ (∀ f ∈ fs, f.name ≠ s) ∨
        (∃ f ∈ fs, f.name = s ∧ f.prevented ∧ (fs.map (·.name)).Nodup) ∨
        (∃ f ∈ fs, f.name = s ∧ f.hidden ∧ (fs.map (·.name)).Nodup))) →
      ∃ e, structArgs fs args = .error e := by
  intro hall ha h
  rw [structArgs_named_eq fs hall]
  exact mapM_error_of_mem ha (structField_rejects h)

theorem structProviderArgs_ok_iff {fs : List FieldDecl} {args : List FieldArg} {sel : List FieldDecl} :
    structProviderArgs fs args = .ok sel ↔ structArgs fs args = .ok sel ∧ (sel.map (·.ty)).Nodup := by
  unfold structProviderArgs
  cases structArgs fs args with
  | error e => simp
  | ok sel' =>
    rw [← Sig.dupParam_none_iff]
    dsimp only
    cases hd : dupParam (sel'.map (·.ty)) with
    | none => exact ⟨fun h => by cases h; exact ⟨rfl, hd⟩, fun h => h.1⟩
    | some t => exact ⟨fun h => (by cases h), fun ⟨h, h2⟩ => by cases h; rw [hd] at h2; cases h2⟩

theorem structProviderArgs_never_hidden {fs : List FieldDecl} {args : List FieldArg} {sel : List FieldDecl} :
    structProviderArgs fs args = .ok sel → ∀ f ∈ sel, f.hidden = false :=
  fun h => structArgs_never_hidden (structProviderArgs_ok_iff.mp h).1

theorem structProviderArgs_types_nodup {fs : List FieldDecl} {args : List FieldArg} {sel : List FieldDecl} :
    structProviderArgs fs args = .ok sel → (sel.map (·.ty)).Nodup :=
  fun h => (structProviderArgs_ok_iff.mp h).2

theorem structProviderArgs_dup_rejected {fs : List FieldDecl} {args : List FieldArg} {sel : List FieldDecl} :
    structArgs fs args = .ok sel → ¬ (sel.map (·.ty)).Nodup →
      ∃ t, structProviderArgs fs args = .error (.dup t) ∧ 2 ≤ (sel.map (·.ty)).count t := by
  intro h hd
  simp only [structProviderArgs, h]
  cases hdp : dupParam (sel.map (·.ty)) with
  | none => exact absurd ((Sig.dupParam_none_iff _).mp hdp) hd
  | some t => exact ⟨t, rfl, Sig.dupParam_named _ _ hdp⟩

theorem structProviderArgs_error_passes {fs : List FieldDecl} {args : List FieldArg} {e : FieldErr} :
    structArgs fs args = .error e → structProviderArgs fs args = .error e := by
  intro h; simp [structProviderArgs, h]

/-- the hypothesis `args.length ≤ fs.length` follows from the other one (`FrontProofs.fieldsOfArgs_ok_len`) -/
theorem fieldsOfArgs_spec {fs : List FieldDecl} {args : List FieldArg} {sel : List FieldDecl} :
    args.length ≤ fs.length → fieldsOfArgs fs args = .ok sel →
      sel.length = args.length ∧ ∀ (i : Nat) a f, args[i]? = some a → sel[i]? = some f →
        a = FieldArg.str f.name ∧ f ∈ fs ∧ f.prevented = false ∧ f.name ≠ "_" := by
  intro hlen h
  rw [fieldsOfArgs, if_neg (by omega)] at h
  have ⟨hl, hg⟩ := mapM_ok_get h
  exact ⟨hl, fun i a f ha hf => checkField_ok_name (hg i a f ha hf)⟩

theorem fieldsOfArgs_tooMany {fs : List FieldDecl} {args : List FieldArg} :
    fs.length < args.length → fieldsOfArgs fs args = .error .tooMany :=
  fun hlen => if_pos hlen

theorem fieldsOfArgs_rejects {fs : List FieldDecl} {args : List FieldArg} {a : FieldArg} :
    a ∈ args →
      (a = .other ∨ ∃ s, a = .str s ∧ (s = "_" ∨ (∀ f ∈ fs, f.name ≠ s) ∨
        ∃ f ∈ fs, f.name = s ∧ f.prevented ∧ (fs.map (·.name)).Nodup)) →
      ∃ e, fieldsOfArgs fs args = .error e := by
  intro ha h
  unfold fieldsOfArgs
  split
  · exact ⟨_, rfl⟩
  · exact mapM_error_of_mem ha (checkField_rejects h)

/-- `"*"` has no special meaning for `wire.FieldsOf` -/
theorem fieldsOfArgs_star_literal {fs : List FieldDecl} :
    (∀ f ∈ fs, f.name ≠ "*") → 1 ≤ fs.length → fieldsOfArgs fs [.str "*"] = .error (.notField "*") := by
  intro h h1
  rw [fieldsOfArgs, if_neg (by simp only [List.length_cons, List.length_nil]; omega), List.mapM_cons, checkField_unknown (.inr h)]
  rfl

def exFs : List FieldDecl :=
  [⟨"A", 1, false, false⟩, ⟨"b", 2, true, false⟩, ⟨"C", 3, false, false⟩, ⟨"D", 1, false, false⟩]

example : (exFs.map (·.name)).Nodup := by decide +kernel
example : checkField exFs (.str "C") = .ok ⟨"C", 3, false, false⟩ := by decide +kernel
example : checkField exFs (.str "b") = .error (.prevented "b") := by decide +kernel
example : checkField exFs (.str "B") = .error (.notField "B") := by decide +kernel
example : structArgs exFs [.str "*"] =
    .ok [⟨"A", 1, false, false⟩, ⟨"C", 3, false, false⟩, ⟨"D", 1, false, false⟩] := by decide +kernel
example : allFields [.str "C", .str "A"] = false := by decide +kernel
example : structArgs exFs [.str "C", .str "A"] = .ok [⟨"C", 3, false, false⟩, ⟨"A", 1, false, false⟩] := by decide +kernel
example : structProviderArgs exFs [.str "C", .str "A"] =
    .ok [⟨"C", 3, false, false⟩, ⟨"A", 1, false, false⟩] := by decide +kernel
example : structArgs exFs [.str "A", .str "D"] = .ok [⟨"A", 1, false, false⟩, ⟨"D", 1, false, false⟩] := by decide +kernel
example : structProviderArgs exFs [.str "A", .str "D"] = .error (.dup 1) := by decide +kernel
example : structProviderArgs exFs [.str "*"] = .error (.dup 1) := by decide +kernel
example : structArgs exFs [.str "A", .other] = .error .notString := by decide +kernel
example : structArgs exFs [.str "A", .str "b"] = .error (.prevented "b") := by decide +kernel
example : structArgs exFs [.str "*", .str "A"] = .error (.notField "*") := by decide +kernel
example : fieldsOfArgs exFs [.str "D", .str "A"] = .ok [⟨"D", 1, false, false⟩, ⟨"A", 1, false, false⟩] := by decide +kernel
example : fieldsOfArgs exFs [.str "A", .str "A", .str "A", .str "A", .str "A"] = .error .tooMany := by decide +kernel
example : fieldsOfArgs exFs [.str "*"] = .error (.notField "*") := by decide +kernel
/-- the `hidden` component defaults to `false` -/
example : ({ name := "A", ty := 1, prevented := false } : FieldDecl) = ⟨"A", 1, false, false⟩ := rfl

/-- a blank field, a field whose name merely starts with `_`, a prevented field -/
def exBlank : List FieldDecl :=
  [⟨"A", 1, false, false⟩, ⟨"_", 2, false, false⟩, ⟨"_x", 3, false, false⟩, ⟨"b", 4, true, false⟩]

example : (exBlank.map (·.name)).Nodup := by decide +kernel
example : structArgs exBlank [.str "*"] = .ok [⟨"A", 1, false, false⟩, ⟨"_x", 3, false, false⟩] := by decide +kernel
example : structProviderArgs exBlank [.str "*"] = .ok [⟨"A", 1, false, false⟩, ⟨"_x", 3, false, false⟩] := by decide +kernel
example : checkField exBlank (.str "_") = .error (.notField "_") := by decide +kernel
example : checkField exBlank (.str "_x") = .ok ⟨"_x", 3, false, false⟩ := by decide +kernel
example : checkField exBlank (.str "b") = .error (.prevented "b") := by decide +kernel
example : structArgs exBlank [.str "A", .str "_"] = .error (.notField "_") := by decide +kernel
example : structArgs exBlank [.str "_x", .str "A"] = .ok [⟨"_x", 3, false, false⟩, ⟨"A", 1, false, false⟩] := by decide +kernel
example : fieldsOfArgs exBlank [.str "_"] = .error (.notField "_") := by decide +kernel
example : fieldsOfArgs exBlank [.str "_x"] = .ok [⟨"_x", 3, false, false⟩] := by decide +kernel
/-- two blank fields of one type do not trip the duplicate-type test under `"*"` -/
example : structProviderArgs [⟨"_", 1, false, false⟩, ⟨"A", 1, false, false⟩, ⟨"_", 1, false, false⟩] [.str "*"] =
    .ok [⟨"A", 1, false, false⟩] := by decide +kernel

/-- `type S other.T`: an exported field, a hidden one, a hidden and prevented one, a hidden blank one -/
def exHidden : List FieldDecl :=
  [⟨"A", 1, false, false⟩, ⟨"b", 2, false, true⟩, ⟨"c", 3, true, true⟩, ⟨"_", 4, false, true⟩]

example : (exHidden.map (·.name)).Nodup := by decide +kernel
example : structArgs exHidden [.str "*"] = .error (.hidden "b") := by decide +kernel
example : structProviderArgs exHidden [.str "*"] = .error (.hidden "b") := by decide +kernel
example : structArgs exHidden [.str "A"] = .ok [⟨"A", 1, false, false⟩] := by decide +kernel
example : structProviderArgs exHidden [.str "A"] = .ok [⟨"A", 1, false, false⟩] := by decide +kernel
example : structArgs exHidden [.str "A", .str "b"] = .error (.hidden "b") := by decide +kernel
example : structArgs exHidden [.str "b"] = .error (.hidden "b") := by decide +kernel
/-- `prevented` is tested first (inside `checkField`) -/
example : structArgs exHidden [.str "c"] = .error (.prevented "c") := by decide +kernel
example : structArgs exHidden [.str "_"] = .error (.notField "_") := by decide +kernel
/-- the first failing argument decides -/
example : structArgs exHidden [.str "b", .str "c"] = .error (.hidden "b") := by decide +kernel
example : structArgs exHidden [.str "c", .str "b"] = .error (.prevented "c") := by decide +kernel
example : structField exHidden (.str "b") = .error (.hidden "b") := by decide +kernel
example : structField exHidden (.str "A") = .ok ⟨"A", 1, false, false⟩ := by decide +kernel
/-- the first hidden field in declaration order is the one reported by `"*"` -/
example : structArgs [⟨"A", 1, false, false⟩, ⟨"y", 2, false, true⟩, ⟨"x", 3, false, true⟩] [.str "*"] =
    .error (.hidden "y") := by decide +kernel
/-- a hidden field that is prevented or blank does not disturb `"*"` -/
example : structArgs [⟨"A", 1, false, false⟩, ⟨"c", 3, true, true⟩, ⟨"_", 4, false, true⟩] [.str "*"] =
    .ok [⟨"A", 1, false, false⟩] := by decide +kernel
example : structProviderArgs [⟨"A", 1, false, false⟩, ⟨"c", 3, true, true⟩, ⟨"_", 4, false, true⟩] [.str "*"] =
    .ok [⟨"A", 1, false, false⟩] := by decide +kernel
/-- `wire.FieldsOf` reads the field: `hidden` plays no part -/
example : checkField exHidden (.str "b") = .ok ⟨"b", 2, false, true⟩ := by decide +kernel
example : fieldsOfArgs exHidden [.str "b"] = .ok [⟨"b", 2, false, true⟩] := by decide +kernel
example : fieldsOfArgs exHidden [.str "b", .str "A"] = .ok [⟨"b", 2, false, true⟩, ⟨"A", 1, false, false⟩] := by decide +kernel
example : fieldsOfArgs exHidden [.str "c"] = .error (.prevented "c") := by decide +kernel
/-- the hypotheses of `structArgs_star_hidden` and `structArgs_hidden_rejected` can be met -/
example : ∃ f ∈ exHidden, f.prevented = false ∧ f.name ≠ "_" ∧ f.hidden = true :=
  ⟨⟨"b", 2, false, true⟩, by decide, by decide⟩

end WireP.C12
