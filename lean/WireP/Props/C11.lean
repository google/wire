import WireP.Lemmas.SolveFinal
import WireP.Lemmas.SolveExample
import WireP.Lemmas.BindProofs
/-! # C11 — an interface binding is an alias, never a source of its own; what `wire.Bind` accepts

First the planner half (`WireV.solve`), then the front half (`section front`).  The map half,
`bind_alias` and `bind_needs_concrete`, is about `buildProviderMap` and is in
`WireP/Props/C05.lean`.

The planner theorems that speak about *all reachable* types need `GivenLeaf pm given`, which `H`
does not imply (counterexamples `pmA`, `pmB`, below; see the header of `C02.lean`). -/
namespace WireP.C11
open WireV WireP.Solve

/-- A binding never produces a call of its own. -/
theorem bind_no_call {pm : PMap} {sm : SMap} {given : List Ty} {out : Ty} (hH : H pm given)
    {k : Ty} {pt : PT} (hlp : look k pm = some pt) (hb : pt.t ≠ k) :
    ∀ c ∈ (final pm sm given out).calls, c.out ≠ k :=
  WireP.Solve.bind_no_call hH.concClosed hH.givenNodup hlp hb

/-- The interface shares the concrete type's index entry (with or without errors) -/
theorem bind_same_index_partial {pm : PMap} {sm : SMap} {given : List Ty} {out : Ty}
    (hH : H pm given) (hl : GivenLeaf pm given) {k : Ty} {pt : PT}
    (hlp : look k pm = some pt) (hb : pt.t ≠ k) (hr : Reach pm out k) :
    look k (final pm sm given out).index = look pt.t (final pm sm given out).index :=
  WireP.Solve.bind_same_index_partial hH hl hlp hb hr

/-- … and, without errors, that entry is a variable holding the concrete type -/
theorem bind_value_partial {pm : PMap} {sm : SMap} {given : List Ty} {out : Ty}
    (hH : H pm given) (hl : GivenLeaf pm given) (he : (final pm sm given out).errs = [])
    {k : Ty} {pt : PT} (hlp : look k pm = some pt) (hb : pt.t ≠ k) (hr : Reach pm out k) :
    ∃ n, look k (final pm sm given out).index = some (some n) ∧
      look pt.t (final pm sm given out).index = some (some n) ∧
      produced given (final pm sm given out).calls n = some pt.t :=
  WireP.Solve.bind_value_partial hH hl he hlp hb hr

/-- No implicit interface satisfaction: lookups are by type identity only, so a needed type that is
    neither given nor a key of the map is an error, whatever else is provided.  This is the ⇒ half
    of `WireP.C06.solve_missing_iff_partial`, contraposed, and no more: the model has `Ty = Nat` and
    no `implements` relation, so "even if some provided type implements it" rests on the harness
    tying the model's lookup by `Ty` to the lookup by type identity in the code. -/
theorem no_implicit_iface_partial {pm : PMap} {sm : SMap} {given : List Ty} {out : Ty}
    (hH : H pm given) (hl : GivenLeaf pm given) {t : Ty}
    (hlp : look t pm = none) (hng : t ∉ given) (hr : Reach pm out t) :
    (final pm sm given out).errs ≠ [] :=
  WireP.Solve.no_implicit_iface_partial hH hl hlp hng hr

open WireP.Solve.Ex

example : H pmEx [0] ∧ GivenLeaf pmEx [0] := ⟨hEx, leafEx⟩
/-- `3` is bound to `2`; it is needed (by `C`), gets no call, and shares variable `2` with `2` -/
example : (look 3 pmEx).map (·.t) = some 2 := by decide
example : Reach pmEx 7 3 :=
  .step (b := 6) ⟨_, rfl, Or.inr ⟨rfl, by decide⟩⟩ <|
    .step (b := 4) ⟨_, rfl, Or.inr ⟨rfl, by decide⟩⟩ <|
      .step (b := 3) ⟨_, rfl, Or.inr ⟨rfl, by decide⟩⟩ (.refl 3)
example : (final pmEx smEx [0] 7).calls.map (·.out) = [1, 2, 4, 5, 6, 7] := by rw [finalEx]; rfl
example : look 3 (final pmEx smEx [0] 7).index = some (some 2) ∧
    look 2 (final pmEx smEx [0] 7).index = some (some 2) ∧
    produced [0] (final pmEx smEx [0] 7).calls 2 = some 2 := by rw [finalEx]; decide
/-- without the value `1`, `1` is needed but nothing is substituted for it -/
example : H pmMiss [0] ∧ GivenLeaf pmMiss [0] ∧ look 1 pmMiss = none ∧
    (final pmMiss smMiss [0] 7).errs ≠ [] := ⟨hMiss, leafMiss, by decide, by rw [finalMiss]; nofun⟩

/-- `GivenLeaf` cannot be dropped from `bind_same_index_partial`: the given type `3` is the key of
    a binding `3 ↦ 2` and the request; it is indexed while `2` is not. -/
example : H pmA [3] ∧ (final pmA [] [3] 3).errs = [] ∧ Reach pmA 3 3 ∧
    look 3 (final pmA [] [3] 3).index = some (some 0) ∧
    look 2 (final pmA [] [3] 3).index = none :=
  ⟨hA, by decide, .refl 3, by decide, by decide⟩

/-- … nor from `no_implicit_iface_partial` -/
example : H pmB [0] ∧ look 5 pmB = none ∧ 5 ∉ [0] ∧ Reach pmB 0 5 ∧
    (final pmB smB [0] 0).errs = [] :=
  ⟨hB, by decide, by decide, reachB5, by decide⟩

/-! ## What `wire.Bind` and `wire.InterfaceValue` accept (`WireV.processBind`, `processIValue`)

The method-set rule (`WireV.methodSet`) is the model's restatement of `types.Implements` for defined struct types with
value and pointer receivers and one level of embedded fields; the `bind` stream ties it and the two functions to the code. -/
section front
open WireP.Bind

/-- What `wire.Bind` accepts; `usePtr` is `bindToUsePointer`. -/
theorem bind_accept_iff (env : BEnv) (usePtr : Bool) (args : List BTy) (i p : BTy) :
    processBind env usePtr args = .ok (i, p) ↔
      ∃ k, i = .iface k ∧ args = [.ptr (.iface k), if usePtr then .ptr p else p] ∧ p ≠ .iface k ∧
        implementsB env p k = true := by
  constructor
  · intro h
    unfold processBind at h
    split at h
    · split at h
      · rename_i a1 _ k
        cases usePtr
        · obtain ⟨hb, hi, rfl, rfl⟩ := accept_ok_iff.mp h
          exact ⟨_, rfl, rfl, by simpa using hb, hi⟩
        · cases a1 with
          | ptr q =>
            obtain ⟨hb, hi, rfl, rfl⟩ := accept_ok_iff.mp h
            exact ⟨_, rfl, rfl, by simpa using hb, hi⟩
          | _ => cases h
      · cases h
    · cases h
  · rintro ⟨k, rfl, rfl, hne, himp⟩
    cases usePtr <;> simp [processBind, hne, himp]

theorem bind_accepted_implements {env : BEnv} {usePtr : Bool} {args : List BTy} {i p : BTy}
    (h : processBind env usePtr args = .ok (i, p)) :
    ∃ k, i = .iface k ∧ p ≠ i ∧ ∀ ns ∈ env.imeths k, ns ∈ methodSet env p := by
  obtain ⟨k, rfl, _, hne, himp⟩ := (bind_accept_iff env usePtr args i p).1 h
  exact ⟨k, rfl, hne, (implementsB_iff env p k).1 himp⟩

/-- Pointer-receiver methods do not make the value type qualify. -/
theorem bind_value_needs_value_receivers {env : BEnv} {usePtr : Bool} {args : List BTy} {k c : Nat}
    (hd : OwnDistinct env c) (h : processBind env usePtr args = .ok (.iface k, .named c)) :
    ∀ ns ∈ env.imeths k, ∀ o ∈ env.meths c, o.name = ns.1 → o.ptrRecv = false := by
  obtain ⟨k', hk, _, _, himp⟩ := (bind_accept_iff env usePtr args _ _).1 h
  cases hk
  exact implements_value_no_ptr_recv hd himp

/-- … stated as a rejection: `wire.Bind(new(I), new(C))` with a method of `I` declared on `*C` is refused -/
theorem bind_ptr_recv_rejected {env : BEnv} {k c : Nat} {o : BMethod} {s : Nat} (hd : OwnDistinct env c)
    (ho : o ∈ env.meths c) (hp : o.ptrRecv = true) (hi : (o.name, s) ∈ env.imeths k) :
    processBind env true [.ptr (.iface k), .ptr (.named c)] = .error .notImpl := by
  have himp : implementsB env (.named c) k = false :=
    Bool.eq_false_iff.mpr fun hb => by simpa [hp] using implements_value_no_ptr_recv hd hb _ hi o ho rfl
  simp [processBind, himp]

/-- what the value type offers, its pointer offers too -/
theorem bind_pointer_accepts_more {env : BEnv} {k c : Nat}
    (h : processBind env true [.ptr (.iface k), .ptr (.named c)] = .ok (.iface k, .named c)) :
    processBind env true [.ptr (.iface k), .ptr (.ptr (.named c))] = .ok (.iface k, .ptr (.named c)) := by
  obtain ⟨k', hk, _, _, himp⟩ := (bind_accept_iff env true _ _ _).1 h
  cases hk
  refine (bind_accept_iff env true _ _ _).2 ⟨k, rfl, rfl, nofun, ?_⟩
  rw [implementsB_iff] at himp ⊢
  intro ns hns
  have := himp ns hns
  simp only [methodSet, List.mem_map] at this ⊢
  obtain ⟨m, hm, rfl⟩ := this
  exact ⟨m, methodSetNamed_mono hm, rfl⟩

/-- What `wire.InterfaceValue` accepts. -/
theorem ivalue_accept_iff (env : BEnv) (args : List BTy) (i p : BTy) :
    processIValue env args = .ok (i, p) ↔
      ∃ k, i = .iface k ∧ args = [.ptr (.iface k), p] ∧ p ≠ .untypedNil ∧ implementsB env p k = true := by
  constructor
  · intro h
    unfold processIValue at h
    split at h
    · split at h
      · obtain ⟨hb, hi, rfl, rfl⟩ := accept_ok_iff.mp h
        exact ⟨_, rfl, rfl, by simpa using hb, hi⟩
      · cases h
    · cases h
  · rintro ⟨k, rfl, rfl, hne, himp⟩
    simp [processIValue, hne, himp]

/-! `T0` has `M0` (value receiver) and `M1` (pointer receiver); `T1` embeds `T0` and shadows `M0` with a
pointer-receiver method; `T2` embeds `T0` and `*T3`, which both declare `M0` -/
def envEx : BEnv where
  meths := fun c => match c with
    | 0 => [⟨0, 0, false⟩, ⟨1, 1, true⟩]
    | 1 => [⟨0, 0, true⟩]
    | 3 => [⟨0, 0, false⟩, ⟨2, 2, false⟩]
    | _ => []
  embeds := fun c => match c with
    | 1 => [(0, false)]
    | 2 => [(0, false), (3, true)]
    | _ => []
  imeths := fun i => match i with
    | 0 => [(0, 0)]
    | 1 => [(0, 0), (1, 1)]
    | 2 => [(2, 2)]
    | _ => []

example : OwnDistinct envEx 0 ∧ OwnDistinct envEx 1 := by
  constructor <;> (unfold OwnDistinct; decide)
example : processBind envEx true [.ptr (.iface 0), .ptr (.named 0)] = .ok (.iface 0, .named 0) := by rfl
example : processBind envEx true [.ptr (.iface 1), .ptr (.named 0)] = .error .notImpl := by rfl
example : processBind envEx true [.ptr (.iface 1), .ptr (.ptr (.named 0))] = .ok (.iface 1, .ptr (.named 0)) := by rfl
/-- the own pointer-receiver `M0` of `T1` shadows the promoted value-receiver `M0` of `T0` -/
example : processBind envEx true [.ptr (.iface 0), .ptr (.named 1)] = .error .notImpl := by rfl
example : processBind envEx true [.ptr (.iface 0), .ptr (.ptr (.named 1))] = .ok (.iface 0, .ptr (.named 1)) := by rfl
/-- `M0` is ambiguous in `T2`, `M2` is promoted through the embedded pointer -/
example : processBind envEx true [.ptr (.iface 0), .ptr (.ptr (.named 2))] = .error .notImpl := by rfl
example : processBind envEx true [.ptr (.iface 2), .ptr (.named 2)] = .ok (.iface 2, .named 2) := by rfl
example : processBind envEx true [.ptr (.iface 0), .ptr (.iface 0)] = .error .self := by rfl
example : processBind envEx true [.ptr (.iface 0), .ptr (.iface 1)] = .ok (.iface 0, .iface 1) := by rfl
example : processBind envEx true [.ptr (.iface 0), .named 0] = .error .notPtr := by rfl
example : processIValue envEx [.ptr (.iface 0), .named 0] = .ok (.iface 0, .named 0) := by rfl
example : processIValue envEx [.ptr (.iface 1), .named 0] = .error .notImpl := by rfl
example : processIValue envEx [.ptr (.iface 0), .untypedNil] = .error .untypedNil := by rfl

end front

end WireP.C11
