import WireP.Lemmas.ShowProofsFinal
import WireV.Sets
import WireV.Emit
import WireV.Generated.Tables
/-! # C19 — `wire show` groups outputs by required inputs; `wire check` succeeds exactly when `wire gen` would

Part 1 is about `WireV.gather` (cmd/wire/main.go:`gather`), the DFS that groups every type a provider
set can produce under the set of types that must be supplied from outside.  `GReach pm` is
reachability along dependencies, `Leaf pm u` says that `u` has no entry or is an injector argument
(`WireP.Show`).  `GAcyclic pm` is assumed only where every DFS has to finish; what the groups mean
follows from an invariant of `gStep` and holds of every map.  No `Nodup` of the keys of `pm` is
needed: `gather` and the specification read `pm` only through `look` (Go: `set.For`), which takes
the first entry for a key; Go's `providerMap` is a `typeutil.Map` and has one. -/
namespace WireP.C19
open WireV WireP.Show

/-- every map accepted by the planner's front half is acyclic in the sense `gather` needs -/
theorem gacyclic_of_acyclic {pm : PMap} (hcc : WireP.Solve.ConcClosed pm)
    (h : WireP.Solve.Acyclic pm) : GAcyclic pm :=
  Subrelation.wf (fun hd => PipelineProofs.succOf_dep hcc (gdep_iff.mp hd)) h.transGen

/-- the fuel `2 + 2·Σ (1 + deps)` that the model gives each DFS is enough -/
theorem gather_terminates {pm : PMap} {keys : List Ty} (hac : GAcyclic pm) :
    (gather pm keys).stk = [] :=
  (gather_halts hac).1

/-- … in fact half of it.  `hI` is not used by the proof: the bound counts the types the DFS newly
    visits, and these are distinct from any state (`Dfs.Grew.nodup`). -/
theorem gather_dfs_steps {pm : PMap} (hac : GAcyclic pm) {s : GSt} (hI : Inv pm s) (k : Ty)
    (rest : List Ty) (hs : s.stk = k :: rest) :
    ∃ n, n ≤ 1 + (pm.map (fun kv => 1 + (depsOf kv.2.src).length)).sum ∧
      (gIter pm n s).stk = rest := by
  obtain ⟨n, s', hn, hs', _, _, hle⟩ := dfs_run hac k rest hs
  exact ⟨n, hle, by rw [gIter_eq, Iter.run_eq_of_runO hn]; exact hs'⟩

theorem gather_visits_keys {pm : PMap} {keys : List Ty} (hac : GAcyclic pm) :
    ∀ k ∈ keys, (look k (gather pm keys).visited).isSome :=
  (gather_halts hac).2

/-- at the end the visited types are exactly those reachable from the keys -/
theorem gather_visited_iff {pm : PMap} {keys : List Ty} (hac : GAcyclic pm) (t : Ty) :
    (look t (gather pm keys).visited).isSome ↔ ∃ k ∈ keys, GReach pm k t :=
  WireP.Show.gather_visited_iff hac t

/-- the inputs of a group are exactly the leaf requirements of each of its outputs -/
theorem gather_inputs_spec {pm : PMap} {keys : List Ty} {k : Ty} {i : Nat}
    (h : look k (gather pm keys).visited = some (some i)) :
    ∃ g, (gather pm keys).groups[i]? = some g ∧ k ∈ g.outputs ∧ g.inputs.Nodup ∧
      ∀ u, u ∈ g.inputs ↔ (GReach pm k u ∧ Leaf pm u) :=
  WireP.Show.gather_inputs_spec h

/-- a type marked as an input (`-1` in Go) is a leaf requirement -/
theorem gather_input_leaf {pm : PMap} {keys : List Ty} {k : Ty}
    (h : look k (gather pm keys).visited = some none) : Leaf pm k :=
  (gather_inv pm keys).leafOk k h

/-- a value goes to a group with no inputs -/
theorem gather_value_no_inputs {pm : PMap} {keys : List Ty} {k : Ty} {i : Nat} {pt : PT} {v : Val}
    (h : look k (gather pm keys).visited = some (some i)) (hl : look k pm = some pt)
    (hv : pt.src = .val v) :
    ∃ g, (gather pm keys).groups[i]? = some g ∧ k ∈ g.outputs ∧ g.inputs = [] :=
  gather_nodeps_no_inputs h hl (by rw [hv]; rfl)

/-- every key with a non-argument entry is an output of exactly one group, once -/
theorem gather_partition {pm : PMap} {keys : List Ty} (hac : GAcyclic pm) {k : Ty} {pt : PT}
    (hk : k ∈ keys) (hl : look k pm = some pt) (hna : ∀ i, pt.src ≠ .arg i) :
    ∃ i g, look k (gather pm keys).visited = some (some i) ∧
      (gather pm keys).groups[i]? = some g ∧ k ∈ g.outputs ∧ g.outputs.Nodup ∧
      (∀ u, u ∈ g.inputs ↔ (GReach pm k u ∧ Leaf pm u)) ∧
      ∀ j g', (gather pm keys).groups[j]? = some g' → k ∈ g'.outputs → j = i :=
  WireP.Show.gather_partition hac hk hl hna

/-- conversely, nothing else is listed: an output has a non-argument entry and is reachable from a
    key -/
theorem gather_outputs_sound {pm : PMap} {keys : List Ty} {j : Nat} {g : Grp} {t : Ty}
    (hg : (gather pm keys).groups[j]? = some g) (ht : t ∈ g.outputs) :
    look t (gather pm keys).visited = some (some j) ∧
      (∃ pt, look t pm = some pt ∧ ∀ i, pt.src ≠ .arg i) ∧ ∃ k ∈ keys, GReach pm k t := by
  obtain ⟨hv, hpt, _⟩ := (gather_inv pm keys).output hg ht
  exact ⟨hv, hpt, (gather_invR pm keys).visR t (by simp [hv])⟩

/-- outputs with equal requirement sets are merged: two groups never have the same inputs -/
theorem gather_groups_distinct {pm : PMap} {keys : List Ty} {i j : Nat} {gi gj : Grp} (hij : i ≠ j)
    (hi : (gather pm keys).groups[i]? = some gi) (hj : (gather pm keys).groups[j]? = some gj) :
    sameKeys gi.inputs gj.inputs = false ∧ ¬ ∀ u, u ∈ gi.inputs ↔ u ∈ gj.inputs :=
  WireP.Show.gather_groups_distinct hij hi hj

/-- if two key lists have the same members (two iteration orders of `set.Outputs()`), the results
    are the same set of (inputs-as-set, outputs-as-set) pairs, and have the same number of groups -/
theorem gather_order_free {pm : PMap} {keys keys' : List Ty} (hac : GAcyclic pm)
    (hk : ∀ k, k ∈ keys ↔ k ∈ keys') :
    (∀ g ∈ (gather pm keys).groups, ∃ g' ∈ (gather pm keys').groups,
      (∀ u, u ∈ g.inputs ↔ u ∈ g'.inputs) ∧ (∀ t, t ∈ g.outputs ↔ t ∈ g'.outputs)) ∧
    (∀ g' ∈ (gather pm keys').groups, ∃ g ∈ (gather pm keys).groups,
      (∀ u, u ∈ g'.inputs ↔ u ∈ g.inputs) ∧ (∀ t, t ∈ g'.outputs ↔ t ∈ g.outputs)) ∧
    (gather pm keys).groups.length = (gather pm keys').groups.length :=
  ⟨WireP.Show.gather_order_free hac hk,
   WireP.Show.gather_order_free hac (fun k => (hk k).symm),
   Nat.le_antisymm (WireP.Show.gather_order_free_length hac hk)
     (WireP.Show.gather_order_free_length hac (fun k => (hk k).symm))⟩

theorem gather_order_free_perm {pm : PMap} {keys keys' : List Ty} (hac : GAcyclic pm)
    (hp : keys.Perm keys') :
    (∀ g ∈ (gather pm keys).groups, ∃ g' ∈ (gather pm keys').groups,
      (∀ u, u ∈ g.inputs ↔ u ∈ g'.inputs) ∧ (∀ t, t ∈ g.outputs ↔ t ∈ g'.outputs)) ∧
    (gather pm keys).groups.length = (gather pm keys').groups.length :=
  have h := gather_order_free hac fun _ => hp.mem_iff
  ⟨h.1, h.2.2⟩

/-! Example: `0` has no entry (a missing input), `1` is an injector argument, `2` a value, `A(2, 0) → 3`, `4` an
interface bound to `3` (its entry is `3`'s), `B(4) → 5`, `C(3) → 6`, `D(5, 6) → 7` (a diamond over
`3`), `8` a field of `7`, `E(1, 8) → 9`. -/

def pA : Prov := { id := 21, args := [2, 0], outs := [3] }
def exPm : PMap :=
  [(1, ⟨1, .arg 0⟩), (2, ⟨2, .val { id := 10, out := 2 }⟩),
   (3, ⟨3, .prov pA⟩), (4, ⟨3, .prov pA⟩),
   (5, ⟨5, .prov { id := 22, args := [4], outs := [5] }⟩),
   (6, ⟨6, .prov { id := 23, args := [3], outs := [6] }⟩),
   (7, ⟨7, .prov { id := 24, args := [5, 6], outs := [7] }⟩),
   (8, ⟨8, .fld { id := 30, parent := 7, outs := [8] }⟩),
   (9, ⟨9, .prov { id := 25, args := [1, 8], outs := [9] }⟩)]
def exKeys : List Ty := [1, 2, 3, 4, 5, 6, 7, 8, 9]

/-- every dependency has a smaller number -/
theorem exAcyclic : GAcyclic exPm := gacyclic_of_rank exPm id (by decide)

/-- three groups: the value needs nothing; `3 … 8` need the missing `0`; `9` needs `1` and `0` -/
example : (gather exPm exKeys).groups =
    [⟨[], [2]⟩, ⟨[0], [3, 4, 5, 6, 7, 8]⟩, ⟨[1, 0], [9]⟩] := by decide +kernel
example : (gather exPm exKeys).visited =
    [(9, some 2), (8, some 1), (7, some 1), (6, some 1), (5, some 1), (4, some 1), (3, some 1),
     (0, none), (2, some 0), (1, none)] := by decide +kernel
example : (gather exPm exKeys).stk = [] := gather_terminates exAcyclic
/-- another order of the keys: the same groups up to the order of outputs -/
example : (gather exPm exKeys.reverse).groups =
    [⟨[], [2]⟩, ⟨[0], [3, 6, 4, 5, 7, 8]⟩, ⟨[1, 0], [9]⟩] := by decide +kernel
/-- a single key: everything it needs is visited and grouped -/
example : (gather exPm [9]).groups = [⟨[], [2]⟩, ⟨[0], [3, 6, 4, 5, 7, 8]⟩, ⟨[1, 0], [9]⟩] := by
  decide +kernel
/-- the hypotheses of `gather_partition` for the binding key `4` -/
example : ∃ i g, look 4 (gather exPm exKeys).visited = some (some i) ∧
    (gather exPm exKeys).groups[i]? = some g ∧ 4 ∈ g.outputs ∧ g.outputs.Nodup ∧
    (∀ u, u ∈ g.inputs ↔ (GReach exPm 4 u ∧ Leaf exPm u)) ∧
    ∀ j g', (gather exPm exKeys).groups[j]? = some g' → 4 ∈ g'.outputs → j = i :=
  gather_partition exAcyclic (by decide) (pt := ⟨3, .prov pA⟩) rfl (by simp)

/-- `GAcyclic` is needed for termination: on a provider that needs its own output the DFS never
    finishes (the Go loop does not terminate; the model runs out of fuel) -/
example : (gather [(0, ⟨0, .prov { id := 0, args := [0], outs := [0] }⟩)] [0]).stk ≠ [] := by decide +kernel

/-! ## Part 2: the analysis stages are called from check and from gen

The regenerated call-fact tables list the functions of the package called, directly or through other
functions of the package, from `Load` (check / show) and from `generateInjectors` and `inject`
(gen).  That a stage is called somewhere below the entry point is all the theorems say, not in
which order or what is done with its result; they break when a stage is no longer reachable, by
name and through any chain of calls, from the entry point of either side (dropping one of several
calls that reach it does not show). -/

theorem load_runs_gen_stages :
    ["findInjectorBuild", "injectorFuncSignature", "processNewSet", "solve", "injectorCallErrors"].all
      (fun f => Generated.loadCalls.contains f) = true := by decide +kernel

theorem gen_runs_stages :
    ["findInjectorBuild", "injectorFuncSignature", "processNewSet", "inject"].all
      (Generated.generateInjectorsCalls.contains ·) = true ∧
    ["funcOutput", "solve", "injectorCallErrors"].all (Generated.injectCalls.contains ·) = true := by
  decide +kernel

theorem set_stages :
    ["buildProviderMap", "verifyAcyclic"].all (Generated.processNewSetCalls.contains ·) = true := by
  decide +kernel

/-- the tables are populated, and a missing stage is detected -/
example : 5 ≤ Generated.loadCalls.length ∧ 3 ≤ Generated.injectCalls.length ∧
    4 ≤ Generated.generateInjectorsCalls.length ∧ 2 ≤ Generated.processNewSetCalls.length := by
  decide
example : ["solve", "noSuchStage"].all (fun f => Generated.loadCalls.contains f) = false := by decide +kernel
/-- `Load` does not emit code: what gen runs in addition is output only -/
example : Generated.loadCalls.contains "writeAST" = false ∧
    Generated.injectCalls.contains "writeAST" = true := by decide +kernel

/-! ## Part 3: the model-level statement (by construction)

An injector passes iff planning its `wire.Build` set succeeds (`planLast`, i.e. `processNewSet` +
`solve` + `verifyArgsUsed`) and its signature declares what the planned calls return
(`sigErrors`, i.e. `injectorCallErrors`).  `gen` passes iff all injectors pass; `check` runs the same
on all injectors and additionally processes the package's provider-set variables.  `checkOk` is
*defined* to say this, so the `check ⇔ gen` theorems unfold it and prove nothing about `Load`; that
`Load` is this composition rests on Part 2 and on the harness, which runs `wire check` next to
`wire gen` on every generated program. -/

/-- one injector: the type order, the set definitions ending in its `wire.Build` set, the requested
    type, and whether its signature declares a cleanup / an error -/
structure InjSpec where
  order : List Ty
  ds : List SetDef
  out : Ty
  sc : Bool
  se : Bool

def injectorOk (order : List Ty) (ds : List SetDef) (out : Ty) (sc se : Bool) : Bool :=
  match planLast order ds out with
  | .ok calls => sigErrors sc se calls == []
  | _ => false

/-- a provider-set variable passes iff `processNewSet` accepts its set -/
def setOk (order : List Ty) (ds : List SetDef) : Bool :=
  match (procSets order ds).getLast? with
  | some (_, .ok _ _) => true
  | _ => false

def genOk (injs : List InjSpec) : Bool := injs.all (fun j => injectorOk j.order j.ds j.out j.sc j.se)

def checkOk (injs : List InjSpec) (sets : List (List Ty × List SetDef)) : Bool :=
  genOk injs && sets.all (fun p => setOk p.1 p.2)

theorem injectorOk_iff (order : List Ty) (ds : List SetDef) (out : Ty) (sc se : Bool) :
    injectorOk order ds out sc se = true ↔
      ∃ calls, planLast order ds out = .ok calls ∧ sigErrors sc se calls = [] := by
  unfold injectorOk
  cases planLast order ds out <;> simp

/-- `wire check`, as modelled, succeeds exactly when `wire gen` would and every provider-set
    variable passes -/
theorem check_iff_gen (injs : List InjSpec) (sets : List (List Ty × List SetDef)) :
    checkOk injs sets = true ↔ genOk injs = true ∧ ∀ p ∈ sets, setOk p.1 p.2 = true := by
  simp [checkOk]

/-- as modelled, check cannot pass where gen fails -/
theorem check_fails_if_gen_fails (injs : List InjSpec) (sets : List (List Ty × List SetDef))
    (h : genOk injs = false) : checkOk injs sets = false := by
  simp [checkOk, h]

/-- on a package without provider-set variables the two verdicts coincide -/
theorem check_eq_gen_no_sets (injs : List InjSpec) : checkOk injs [] = genOk injs := by
  simp [checkOk]

/-- an injector that passes has an accepted `wire.Build` set: listing the injectors' own sets among
    the checked sets changes nothing -/
theorem injectorOk_setOk (order : List Ty) (ds : List SetDef) (out : Ty) (sc se : Bool)
    (h : injectorOk order ds out sc se = true) : setOk order ds = true := by
  obtain ⟨calls, hp, _⟩ := (injectorOk_iff order ds out sc se).mp h
  unfold planLast at hp
  unfold setOk
  simp only at hp
  split at hp
  · rename_i heq; rw [heq]
  · cases hp
  · cases hp

/-! Example: one set with a value and a provider returning an error -/

def exSet : SetDef :=
  { id := 1, args := some [0], imports := [],
    provs := [{ id := 20, args := [0, 1], outs := [2], hasErr := true }],
    vals := [{ id := 10, out := 1 }], flds := [], bnds := [] }
def exInj (se : Bool) : InjSpec := { order := [0, 1, 2], ds := [exSet], out := 2, sc := false, se := se }

example : planLast [0, 1, 2] [exSet] 2 =
    .ok [{ kind := .value, out := 1, srcId := 10 },
         { kind := .func, out := 2, srcId := 20, args := [0, 1], ins := [0, 1], hasErr := true }] := by
  rfl
example : genOk [exInj true] = true ∧ checkOk [exInj true] [([0, 1, 2], [exSet])] = true := by decide +kernel
/-- the injector does not declare the error: both fail -/
example : genOk [exInj false] = false ∧ checkOk [exInj false] [] = false := by decide +kernel
/-- gen passes, a provider-set variable with two sources for `1` makes check fail -/
example : genOk [exInj true] = true ∧
    checkOk [exInj true] [([0, 1, 2], [{ exSet with vals := [⟨10, 1⟩, ⟨11, 1⟩] }])] = false := by
  decide +kernel

end WireP.C19
