import WireV.Generated.Tables
import WireP.Lemmas.EmitProofs
/-! # C03 — a failing provider aborts the injector, returns its error, unwinds cleanups

Model: `WireV.emitInj` (what `injectPass`/`funcProviderCall` emit, by position) and `WireV.exec` (its execution under a
fault plan `fails : position → Bool`).  Tied to the code by the IR of every generated injector (error-branch cleanup
lists, returned values) and by run-time traces of instrumented providers under every single-failure plan, both compared
with this model's output.  The name of the returned error variable is the naming layer's business (C14; defect D1). -/
namespace WireP.C03
open WireV WireP.EmitProofs

/-- `c`, at position `pre.length`, is the first provider to fail: the provider functions up to and including `c` are
    called, then the cleanups acquired before `c` run, newest first, and nothing else happens; the injector returns
    `c`'s error, and a nil cleanup iff it declares one. -/
theorem fail_trace_and_result (fails : Nat → Bool) (sc se : Bool) (pre post : List Call) (c : Call)
    (hck : isFn c = true) (hce : c.hasErr = true) (hcf : fails pre.length = true)
    (hpre : NoFail fails 0 pre) :
    runInj fails sc se (pre ++ c :: post) =
      ((fnPos 0 pre ++ [pre.length]).map Ev.call ++ (clPos 0 pre).reverse.map Ev.cleanup,
       Outcome.failed pre.length sc) := by
  have := exec_emitFrom_append (sc := sc) (closure := (emitInj sc se (pre ++ c :: post)).closure)
    0 [] pre (c :: post) hpre
  rw [exec_emitFrom_cons, if_pos ⟨hck, hce, by simpa using hcf⟩] at this
  simpa [runInj, emitInj] using this

/-- Read with `fail_trace_and_result`, whose trace ends in these cleanups: the failing provider's own cleanup (position
    `pre.length`) is never invoked, nor any later one.  The statement itself is about `clPos` alone, not about a run. -/
theorem fail_own_cleanup_not_run (pre : List Call) : ∀ p ∈ (clPos 0 pre).reverse, p < pre.length := by
  intro p hp
  have := clPos_lt 0 pre p (by simpa using hp)
  omega

/-- Read with `fail_trace_and_result`: each earlier cleanup runs once, in reverse order of acquisition.  Again about
    `clPos` alone. -/
theorem fail_each_once_reverse (pre : List Call) :
    ((clPos 0 pre).reverse).Pairwise (· > ·) := by
  rw [List.pairwise_reverse]
  exact clPos_sorted 0 pre

/-- `inject` refuses to emit unless the injector declares every result the planned calls need (C09).  In an entry
    `(k, b)` of `sigErrors`, about call `k`, `b = true` is an undeclared cleanup and `b = false` an undeclared error. -/
theorem needs_sig (sc se : Bool) (calls : List Call) :
    sigErrors sc se calls = [] ↔ ∀ c ∈ calls, (c.hasCleanup = true → sc = true) ∧ (c.hasErr = true → se = true) :=
  sigErrors_eq_nil_iff sc se calls

-- four providers; #0 and #1 return cleanups, #2 returns a cleanup and fails
example : runInj (fun p => p == 2) true true
    [{ kind := .func, out := 10, srcId := 1, hasCleanup := true },
     { kind := .func, out := 11, srcId := 2, hasCleanup := true, hasErr := true },
     { kind := .func, out := 12, srcId := 3, hasCleanup := true, hasErr := true },
     { kind := .func, out := 13, srcId := 4 }]
    = ([Ev.call 0, Ev.call 1, Ev.call 2, Ev.cleanup 1, Ev.cleanup 0], Outcome.failed 2 true) := by decide +kernel

/-! The zero value returned next to the error: which literal it is depends on the kind of the underlying type.  The
tables are read off `zeroValue` on every run; the expectation is Go's (spec: "The zero value"). -/
section zero
open WireV.Generated

/-- Go's zero value of a basic kind, by the kind's name and go/types flags -/
def goZeroLit (kf : String × List String) : String :=
  if kf.2.contains "IsBoolean" then "false"
  else if kf.2.contains "IsString" then "\"\""
  else if kf.1 == "UnsafePointer" then "nil"
  else "0"

/-- what `zeroValue` emits: the literal of the first branch whose condition mentions one of the kind's flags or its name -/
def emittedZero (kf : String × List String) : Option String :=
  (zeroBasicReturns.find? (fun c => c.1.any (fun n => kf.2.contains n || n == kf.1))).map (·.2)

/-- every typed basic kind gets Go's zero literal -/
theorem zero_basic_right : (basicKinds.filter (fun kf => emittedZero kf != some (goZeroLit kf))) = [] := by decide +kernel

/-- composite kinds: `T{}` for arrays and structs, `nil` for everything that can be nil -/
theorem zero_cases_right :
    (zeroCases.filter (fun c => c.1 != "Basic" &&
      c.2 != (if c.1 == "Array" || c.1 == "Struct" then "lit" else "nil"))) = [] ∧
    (["Array", "Struct", "Chan", "Interface", "Map", "Pointer", "Signature", "Slice"].filter
      (fun k => !(zeroCases.map (·.1)).contains k)) = [] := by decide +kernel

example : emittedZero ("Bool", ["IsBoolean"]) = some "false" ∧ emittedZero ("Float64", ["IsFloat"]) = some "0" ∧
    emittedZero ("String", ["IsString"]) = some "\"\"" ∧ emittedZero ("UnsafePointer", []) = some "nil" := by decide +kernel
example : basicKinds.length = 18 := by decide +kernel
/-- the check notices a swapped literal.  `emittedZero`'s body is written out, with a one-row table in place of
    `zeroBasicReturns` and without the test on the kind's name. -/
example : ((([(["IsBoolean"], "0")] : List (List String × String)).find? (fun c => c.1.any (fun n => ["IsBoolean"].contains n))).map (·.2))
    ≠ some (goZeroLit ("Bool", ["IsBoolean"])) := by decide +kernel

end zero

end WireP.C03
