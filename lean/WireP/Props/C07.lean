import WireP.Lemmas.AcyclicProofs
/-! C07 — dependency cycles are detected and analysis always terminates.  The model is
`WireV.verifyAcyclic`, a transcription of the stack machine in `internal/wire/analyze.go:verifyAcyclic`,
tied to the code by the unit-tier correspondence. -/
namespace WireP.C07
open WireV

/-- The detector empties its stack within `acFuel pm roots = |roots| + Σ_keys outdeg` steps: the running
    time does not depend on the number of paths (deep chains, wide diamonds). -/
theorem va_terminates (pm : PMap) (roots : List Ty) : (verifyAcyclic pm roots).stk = [] :=
  WireP.AcyclicProofs.va_terminates pm roots

/-- If every key of the map is a root (Go: `providerMap.Keys()`), the detector reports no error iff the
    provider graph is acyclic. -/
theorem va_spec (pm : PMap) (roots : List Ty) (hroots : ∀ k, (look k pm).isSome → k ∈ roots) :
    (verifyAcyclic pm roots).errs = [] ↔ ¬ Cyclic (succOf pm) :=
  WireP.AcyclicProofs.va_spec pm roots hroots

/-- Every diagnostic is a real cycle. -/
theorem va_sound (pm : PMap) (roots : List Ty) :
    ∀ tr ∈ (verifyAcyclic pm roots).errs, IsCycleTrail (succOf pm) tr :=
  WireP.AcyclicProofs.va_sound pm roots

/-- The acyclicity stage of `processNewSet`.  `horder`: the type order handed to the model lists every
    key, which the harness guarantees. -/
theorem checkAcyclic_spec (order : List Ty) (pm : PMap)
    (horder : ∀ k, (look k pm).isSome → k ∈ order) :
    checkAcyclic order pm = [] ↔ ¬ Cyclic (succOf pm) :=
  WireP.AcyclicProofs.checkAcyclic_spec order pm horder

/-- A set is accepted only if its provider graph is acyclic, whether or not any injector uses the cyclic
    part. -/
theorem procSet_ok_acyclic (order : List Ty) (done : List (Nat × SetRes)) (d : SetDef) (pm : PMap) (sm : SMap)
    (horder : ∀ k, (look k pm).isSome → k ∈ order)
    (h : procSet order done d = .ok pm sm) : ¬ Cyclic (succOf pm) :=
  WireP.AcyclicProofs.procSet_ok_acyclic order done d pm sm horder h

-- a two-node cycle through a provider and a field is reported, a diamond is not
example : (verifyAcyclic [(0, ⟨0, .prov { id := 1, args := [1], outs := [0] }⟩),
                          (1, ⟨1, .fld { id := 2, parent := 0, outs := [1] }⟩)] [0, 1]).errs = [[0, 1, 0]] := by
  decide
example : (verifyAcyclic [(0, ⟨0, .prov { id := 1, args := [1, 2], outs := [0] }⟩),
                          (1, ⟨1, .prov { id := 2, args := [3], outs := [1] }⟩),
                          (2, ⟨2, .prov { id := 3, args := [3], outs := [2] }⟩),
                          (3, ⟨3, .val { id := 4, out := 3 }⟩)] [0, 1, 2, 3]).errs = [] := by
  decide

end WireP.C07
