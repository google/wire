import WireP.Lemmas.PathProofs
import WireP.Lemmas.PathProofsSort
/-! # C16 — vendor stripping and the sorted import block

Model: `WireV.unvendorC` / `unvendor` / `isWireImport` (wire.go: unvendor, isWireImport; `strings.LastIndex` is
`WireV.lastIndex`), `WireV.sortS` (`sort.Strings`) and `WireV.frameImports` (the import block printed by `frame`,
iterating over the map `g.imports`). -/
namespace WireP.C16
open WireV
open WireP.PathProofs (NoVendorElem)

/-- `Iff.rfl`: unfolds `NoVendorElem` for the reader of the statements below -/
theorem noVendorElem_def (p : List Char) :
    NoVendorElem p ↔ lastIndex vendorElem p = none ∧ isPrefixC "vendor/".toList p = false := Iff.rfl

theorem isPrefixC_iff (n h : List Char) : isPrefixC n h = true ↔ ∃ t, h = n ++ t :=
  WireP.PathProofs.isPrefixC_iff n h

theorem lastIndex_some_iff {n : List Char} (hn : n ≠ []) {h : List Char} {i : Nat} :
    lastIndex n h = some i ↔
      isPrefixC n (h.drop i) = true ∧ ∀ j, i < j → isPrefixC n (h.drop j) = false :=
  WireP.PathProofs.lastIndex_some_iff hn

theorem lastIndex_none_iff {n : List Char} (hn : n ≠ []) (h : List Char) :
    lastIndex n h = none ↔ ∀ j, isPrefixC n (h.drop j) = false :=
  WireP.PathProofs.lastIndex_none_iff hn h

theorem unvendor_id {p : List Char} : NoVendorElem p → unvendorC p = p :=
  WireP.PathProofs.unvendor_id

/-- wherever a package is vendored (`q` may itself contain vendor elements), its import path is read back -/
theorem unvendor_canonical {p : List Char} (h : NoVendorElem p) (q : List Char) :
    unvendorC (q ++ vendorElem ++ p) = p ∧ unvendorC ("vendor/".toList ++ p) = p :=
  WireP.PathProofs.unvendor_canonical h q

theorem unvendor_canonical_string {p : String} (h : NoVendorElem p.toList) (q : String) :
    unvendor (q ++ "/vendor/" ++ p) = p ∧ unvendor ("vendor/" ++ p) = p := by
  have := WireP.PathProofs.unvendor_canonical h q.toList
  simp only [unvendor, String.toList_append]
  exact ⟨by rw [show "/vendor/".toList = vendorElem from rfl, this.1, String.ofList_toList],
         by rw [this.2, String.ofList_toList]⟩

theorem unvendor_noVendor (p : List Char) : NoVendorElem (unvendorC p) :=
  WireP.PathProofs.unvendor_noVendor p

theorem unvendor_idem (p : List Char) : unvendorC (unvendorC p) = unvendorC p :=
  WireP.PathProofs.unvendor_idem p

theorem unvendor_idem_string (p : String) : unvendor (unvendor p) = unvendor p := by
  simp only [unvendor, String.toList_ofList, WireP.PathProofs.unvendor_idem]

theorem unvendor_suffix (p : List Char) : ∃ q, p = q ++ unvendorC p := by
  unfold unvendorC
  split
  · exact ⟨_, (List.take_append_drop _ _).symm⟩
  · split
    · exact ⟨_, (List.take_append_drop _ _).symm⟩
    · exact ⟨[], rfl⟩

/-- defect D13 (fixed in the source): a path element that merely ends in `vendor` is not a vendor directory -/
theorem unvendor_govendor :
    unvendor "example.com/app/vendor/github.com/a/govendor/lib" = "github.com/a/govendor/lib" :=
  WireP.PathProofs.unvendor_lit rfl rfl (by decide +kernel)

theorem isWireImport_spec (p : String) :
    isWireImport p = true ↔ unvendor p = "github.com/google/wire" :=
  WireP.PathProofs.isWireImport_spec p

/-- a vendored copy of wire is recognised, also below a nested vendor directory or with `vendor/` at the front; a
    package whose path merely ends like wire's is not -/
theorem isWireImport_vendored :
    isWireImport "github.com/google/wire" = true ∧
    isWireImport "example.com/app/vendor/github.com/google/wire" = true ∧
    isWireImport "example.com/app/vendor/b.org/lib/vendor/github.com/google/wire" = true ∧
    isWireImport "vendor/github.com/google/wire" = true ∧
    isWireImport "example.com/govendor/github.com/google/wire" = false ∧
    isWireImport "example.com/app/vendor/github.com/google/wire/sub" = false :=
  ⟨WireP.PathProofs.isWireImport_lit rfl rfl (by decide +kernel), WireP.PathProofs.isWireImport_lit rfl rfl (by decide +kernel),
   WireP.PathProofs.isWireImport_lit rfl rfl (by decide +kernel), WireP.PathProofs.isWireImport_lit rfl rfl (by decide +kernel),
   WireP.PathProofs.isWireImport_lit rfl rfl (by decide +kernel), WireP.PathProofs.isWireImport_lit rfl rfl (by decide +kernel)⟩

theorem sortS_sorted (l : List String) : (sortS l).Pairwise (· ≤ ·) :=
  WireP.PathProofs.sortS_sorted l

theorem sortS_perm (l : List String) : (sortS l).Perm l :=
  WireP.PathProofs.sortS_perm l

theorem sortS_eq_of_perm {l l' : List String} : l.Perm l' → sortS l = sortS l' :=
  WireP.PathProofs.sortS_eq_of_perm

/-- the import block does not depend on the iteration order of the map `g.imports` -/
theorem frame_perm {imps imps' : List ImportEnt} :
    imps.Perm imps' → (imps.map (·.path)).Nodup → frameImports imps = frameImports imps' :=
  WireP.PathProofs.frame_perm

theorem frameImports_length (imps : List ImportEnt) : (frameImports imps).length = imps.length := by
  simp [WireP.PathProofs.frameImports_eq, (WireP.PathProofs.sortS_perm _).length_eq]

/-- line `i` is that of the `i`-th smallest path, never the `""` fallback of `importLine` -/
theorem frameImports_get {imps : List ImportEnt} (hnd : (imps.map (·.path)).Nodup) {i : Nat} {p : String} :
    (sortS (imps.map (·.path)))[i]? = some p →
    ∃ e ∈ imps, e.path = p ∧
      (frameImports imps)[i]? = some (if e.differs then s!"{e.name} \"{p}\"" else s!"\"{p}\"") := by
  intro hi
  obtain ⟨e, he, hep⟩ := List.mem_map.mp ((WireP.PathProofs.sortS_perm _).mem_iff.mp (List.mem_of_getElem? hi))
  refine ⟨e, he, hep, ?_⟩
  rw [WireP.PathProofs.frameImports_eq, List.getElem?_map, hi]
  simp only [Option.map_some, WireP.PathProofs.importLine, (WireP.find?_key_eq_some_iff hnd).mpr ⟨he, hep⟩]

open WireP.PathProofs in
section
-- the `_lit` lemmas: see `WireP/Lemmas/PathProofs.lean`
example : NoVendorElem "github.com/google/wire".toList := noVendorElem_lit rfl (by decide +kernel)
example : NoVendorElem "example.com/govendor/vendors/x".toList := noVendorElem_lit rfl (by decide +kernel)
example : ¬ NoVendorElem "a/vendor/b".toList := not_noVendorElem_lit rfl (by decide +kernel)
example : ¬ NoVendorElem "vendor/b".toList := not_noVendorElem_lit rfl (by decide +kernel)
example : lastIndex "/vendor/".toList "a/vendor/b/vendor/c".toList = some 10 := lastIndex_lit rfl rfl (by decide +kernel)
example : unvendor "a/vendor/b/vendor/c" = "c" := unvendor_lit rfl rfl (by decide +kernel)
example : unvendor "vendor/c" = "c" := unvendor_lit rfl rfl (by decide +kernel)
example : unvendor "a/vendor/vendor/c" = "c" := unvendor_lit rfl rfl (by decide +kernel)
example : unvendor "vendor/vendor/c" = "c" := unvendor_lit rfl rfl (by decide +kernel)
example : unvendor "xvendor/c" = "xvendor/c" := unvendor_lit rfl rfl (by decide +kernel)
end

def exImps : List ImportEnt :=
  [⟨"net/http", "http", false⟩, ⟨"example.com/b", "b2", true⟩, ⟨"context", "context", false⟩]
def exImps' : List ImportEnt :=
  [⟨"context", "context", false⟩, ⟨"net/http", "http", false⟩, ⟨"example.com/b", "b2", true⟩]

example : exImps.Perm exImps' := by decide +kernel
example : (exImps.map (·.path)).Nodup := by decide +kernel
example : sortS ["net/http", "example.com/b", "context"] = ["context", "example.com/b", "net/http"] := by decide +kernel
example : frameImports exImps = ["\"context\"", "b2 \"example.com/b\"", "\"net/http\""] := by decide +kernel
example : frameImports exImps' = frameImports exImps := by decide +kernel

end WireP.C16
