import WireP.Lemmas.SolveUsed
import WireP.Lemmas.SolveFinal
import WireP.Lemmas.SolveExample
/-! # C06 — a missing provider is reported, exactly when one is missing, naming the type

That a missing needed type `t` gets a `noProvider t _` of its own is not here: it is
`WireP.Solve.missing_named_in_errs`, which reaches the pipeline statement as
`WireP.Pipeline.planLast_rejects_missing`.

The "only if" half of `solve_missing_iff_partial` needs `GivenLeaf pm given`, which `H` does not
imply (counterexample `pmB`, below; see the header of `C02.lean`). -/
namespace WireP.C06
open WireV WireP.Solve

/-- The planner reports an error exactly when some type reachable from the requested one is neither
    given nor provided. -/
theorem solve_missing_iff_partial {pm : PMap} {sm : SMap} {given : List Ty} {out : Ty}
    (hH : H pm given) (hl : GivenLeaf pm given) :
    (final pm sm given out).errs = [] ↔
      ∀ u, Reach pm out u → u ∈ given ∨ (look u pm).isSome :=
  WireP.Solve.solve_missing_iff_partial hH hl

/-- the "if" half needs no extra hypothesis -/
theorem solve_missing_if {pm : PMap} {sm : SMap} {given : List Ty} {out : Ty} (hH : H pm given)
    (h : ∀ u, Reach pm out u → u ∈ given ∨ (look u pm).isSome) :
    (final pm sm given out).errs = [] :=
  WireP.Solve.solve_missing_if hH.concClosed hH.givenNodup h

/-- Every diagnostic is true and names the type. -/
theorem solve_missing_named {pm : PMap} {sm : SMap} {given : List Ty} {out : Ty} (hH : H pm given) :
    ∀ e ∈ (final pm sm given out).errs, ∃ t up, e = Err.noProvider t up ∧ look t pm = none ∧
      t ∉ given ∧ Reach pm out t :=
  WireP.Solve.solve_missing_named hH.concClosed hH.givenNodup

/-- Errors block output. -/
theorem solve_errs_no_calls {pm : PMap} {sm : SMap} {d : SetDef} {impIds : List Nat}
    {given : List Ty} {out : Ty} {cs : List Call}
    (h : solve pm sm d impIds given out = .ok cs) :
    (final pm sm given out).errs = [] ∧ (final pm sm given out).stk = [] ∧
      cs = (final pm sm given out).calls :=
  have := WireP.Solve.solve_ok_iff.mp h
  ⟨this.2.1, this.1, this.2.2.2⟩

open WireP.Solve.Ex

example : H pmEx [0] ∧ GivenLeaf pmEx [0] := ⟨hEx, leafEx⟩
example : (final pmEx smEx [0] 7).errs = [] := by rw [finalEx]

/-- the same diamond without the value `1`: one error, naming `1` and the chain of requesters -/
example : H pmMiss [0] ∧ GivenLeaf pmMiss [0] := ⟨hMiss, leafMiss⟩
example : (final pmMiss smMiss [0] 7).errs = [Err.noProvider 1 [2, 3, 4, 6, 7]] ∧
    (final pmMiss smMiss [0] 7).calls = [] := by rw [finalMiss]; exact ⟨rfl, rfl⟩
example : look 1 pmMiss = none := by decide
example : solve pmMiss smMiss dEx [] [0] 7 = .errs [Err.noProvider 1 [2, 3, 4, 6, 7]] := by
  rw [solve_eq, finalMiss]; rfl

/-- `GivenLeaf` cannot be dropped from `solve_missing_iff_partial`: the given type `0` also has a
    provider needing the unprovided `5`, and there is no error. -/
example : H pmB [0] ∧ (final pmB smB [0] 0).errs = [] ∧ Reach pmB 0 5 ∧ 5 ∉ [0] ∧
    look 5 pmB = none :=
  ⟨hB, by decide, reachB5, by decide, by decide⟩

end WireP.C06
