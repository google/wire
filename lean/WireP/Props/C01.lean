import WireP.Lemmas.NameableProofs
import WireP.Props.Pipeline
import WireP.Props.C14
import WireP.Props.C20
import WireP.Props.C03
import WireP.Lemmas.SolveExample
import WireP.Lemmas.ImportableProofs
/-! C01 — successful generation yields a compilable package (aggregate, IR level).

C01 itself is decided by compiling every generated package.  Its Lean part is the IR-level
well-formedness that the other properties establish; the theorems below restate them, each a short
corollary of a theorem proved elsewhere, with all hypotheses visible and no new assumption. -/
namespace WireP.C01
open WireV WireP.Solve WireP.Pipeline

/-- Every variable is defined before it is used, and defined once: in an accepted plan every argument of
    call number `p` is an injector parameter or the result of an earlier call, no type is constructed by
    two calls (one local variable per constructed type), and no given type is constructed. -/
theorem defined_before_use {order : List Ty} {ds : List SetDef} {d : SetDef} {out : Ty}
    {calls : List Call} (hbl : BuildLast ds) (hd : ds.getLast? = some d)
    (horder : OrderCovers order ds) (h : planLast order ds out = .ok calls) :
    (∀ (p : Nat) c, calls[p]? = some c → ∀ a ∈ c.args, a < (d.args.getD []).length + p) ∧
    (calls.map (·.out)).Nodup ∧ (∀ c ∈ calls, c.out ∉ d.args.getD []) := by
  obtain ⟨pm, sm, _, _, _, _, _, hs⟩ := planLast_ok_spec hbl hd horder h
  refine ⟨?_, hs.outs_nodup, hs.outs_not_given⟩
  intro p c hpc a ha
  obtain ⟨pt, _, _, _, _, hlen, hargs⟩ := hs.call_sound p c hpc
  obtain ⟨j, hj, rfl⟩ := List.mem_iff_getElem.mp ha
  have hj' : j < (depsOf pt.src).length := by omega
  exact (hargs j c.args[j] (depsOf pt.src)[j] (List.getElem?_eq_getElem hj)
    (List.getElem?_eq_getElem hj')).1

/-- Every argument has the type its parameter wants: a call has one argument per dependency of its
    provider, the variable passed for dependency `dd` holds `resolveTy pm dd` (the dependency itself, or
    the concrete type an interface binding maps it to), and the variable the injector returns holds
    `resolveTy pm out`. -/
theorem argument_types {order : List Ty} {ds : List SetDef} {d : SetDef} {out : Ty}
    {calls : List Call} (hbl : BuildLast ds) (hd : ds.getLast? = some d)
    (horder : OrderCovers order ds) (h : planLast order ds out = .ok calls) :
    ∃ pm sm, (procSets order ds).getLast? = some (d.id, SetRes.ok pm sm) ∧
      (∀ (p : Nat) c, calls[p]? = some c →
        ∃ pt, look c.out pm = some pt ∧ pt.t = c.out ∧ (∀ i, pt.src ≠ .arg i) ∧
          c.args.length = (depsOf pt.src).length ∧
          ∀ (j : Nat) a dd, c.args[j]? = some a → (depsOf pt.src)[j]? = some dd →
            produced (d.args.getD []) calls a = some (resolveTy pm dd)) ∧
      (∃ n, look out (final pm sm (d.args.getD []) out).index = some (some n) ∧
        produced (d.args.getD []) calls n = some (resolveTy pm out)) ∧
      (calls ≠ [] → (calls.getLast?).map (·.out) = some (resolveTy pm out)) := by
  obtain ⟨pm, sm, _, hl, _, _, _, hs⟩ := planLast_ok_spec hbl hd horder h
  refine ⟨pm, sm, hl, ?_, hs.result, hs.result_last⟩
  intro p c hpc
  obtain ⟨pt, h1, h2, h3, _, h5, h6⟩ := hs.call_sound p c hpc
  exact ⟨pt, h1, h2, h3, h5, fun j a dd ha hdd => (h6 j a dd ha hdd).2⟩

/-- Every call's result variable is used (Go rejects a variable that is "declared and not used"): the
    variable `given.length + p` of call number `p` is an argument of a later call, or it is the one the
    injector returns.  Of the standing hypotheses only `H` is needed. -/
theorem every_call_used {pm : PMap} {sm : SMap} {given : List Ty} {out : Ty} (hH : H pm given)
    (he : (final pm sm given out).errs = []) :
    ∀ (p : Nat) (c : Call), (final pm sm given out).calls[p]? = some c →
      (∃ (q : Nat) (c' : Call), p < q ∧ (final pm sm given out).calls[q]? = some c' ∧
        (given.length + p) ∈ c'.args) ∨
      look out (final pm sm given out).index = some (some (given.length + p)) :=
  WireP.Solve.every_call_used hH he

/-- If there is any call, the injector returns the variable of the last one (no later call could use
    it). -/
theorem last_call_returned {pm : PMap} {sm : SMap} {given : List Ty} {out : Ty} (hH : H pm given)
    (he : (final pm sm given out).errs = []) (hc : (final pm sm given out).calls ≠ []) :
    look out (final pm sm given out).index =
      some (some (given.length + ((final pm sm given out).calls.length - 1))) :=
  WireP.Solve.last_call_returned hH he hc

/-- `every_call_used` and `last_call_returned` for the whole modelled pipeline, with no side hypothesis. -/
theorem every_call_used_plan {order : List Ty} {ds : List SetDef} {d : SetDef} {out : Ty}
    {calls : List Call} (hbl : BuildLast ds) (hd : ds.getLast? = some d)
    (horder : OrderCovers order ds) (h : planLast order ds out = .ok calls) :
    ∃ pm sm, (procSets order ds).getLast? = some (d.id, SetRes.ok pm sm) ∧
      (∀ (p : Nat) (c : Call), calls[p]? = some c →
        (∃ (q : Nat) (c' : Call), p < q ∧ calls[q]? = some c' ∧
          ((d.args.getD []).length + p) ∈ c'.args) ∨
        look out (final pm sm (d.args.getD []) out).index =
          some (some ((d.args.getD []).length + p))) ∧
      (calls ≠ [] → look out (final pm sm (d.args.getD []) out).index =
        some (some ((d.args.getD []).length + (calls.length - 1)))) := by
  obtain ⟨pm, sm, hl, hs⟩ := WireP.PipelineProofs.planLast_ok_inv hd h
  obtain ⟨hH, -, -⟩ := planLast_hyps hbl hd hl (WireP.PipelineProofs.last_covered horder hl)
  obtain ⟨-, he, -, rfl⟩ := solve_ok_iff.mp hs
  exact ⟨pm, sm, hl, WireP.Solve.every_call_used hH he, WireP.Solve.last_call_returned hH he⟩

/-- All binders of a generated injector are pairwise distinct, none is a keyword, none is in file scope
    (imports, value variables, package scope, universe); one name per parameter, per planned call and
    per cleanup.  `ig.all` = parameters, locals, cleanups and the error variable. -/
theorem binders_distinct (fuel : Nat) (e : NameEnv) (ps : List ParamInfo) (ss : List StepInfo)
    (ig : InjNames) (h : nameInjector fuel e ps ss = some ig) :
    (ig.all.Nodup ∧ ∀ n ∈ ig.all, e.inFileScope n = false ∧ isKeyword n = false) ∧
    (ig.params.length = ps.length ∧ ig.locals.length = ss.length ∧
      ig.cleanups.length = (ss.filter (fun s => s.isFunc && s.hasCleanup)).length) :=
  WireP.C14.nameInjector_distinct fuel e ps ss ig h

/-- Emission is refused unless the injector's signature declares a cleanup (an error) whenever a planned
    call returns one. -/
theorem signature_declared (sc se : Bool) (calls : List Call) :
    sigErrors sc se calls = [] ↔
      ∀ c ∈ calls, (c.hasCleanup = true → sc = true) ∧ (c.hasErr = true → se = true) :=
  WireP.C03.needs_sig sc se calls

/-- A zero value can be written for every type (`zeroValue` never reaches its `panic`): every kind of
    underlying type has a case, every typed basic kind is handled by the basic branch. -/
theorem zero_value_total :
    zeroUnhandled = [] ∧
    (Generated.basicKinds.filter (fun kf =>
      !(kf.2.any (fun f => Generated.zeroBasicFlags.contains f)) &&
        !Generated.zeroBasicKinds.contains kf.1)) = [] :=
  ⟨WireP.C20.zero_kinds_total, WireP.C20.zero_basic_total⟩

/-- `copyAST` has a case for every go/ast node kind, and every case copies every child, child-list and
    value field of its node. -/
theorem copied_decls_complete : copyUnhandled = [] ∧ copyMissing = [] :=
  ⟨WireP.Tables.copyUnhandled_nil, WireP.Tables.copyMissing_nil⟩

/-- the tables the last two theorems range over are populated -/
example : 50 ≤ WireV.Generated.astNodes.length ∧ WireV.Generated.zeroCases ≠ [] := by decide +kernel

/-! On the accepted two-set program of `WireP/Props/Pipeline.lean` (six calls): -/

example : (∀ (p : Nat) c, exCalls[p]? = some c → ∀ a ∈ c.args, a < [0].length + p) ∧
    (exCalls.map (·.out)).Nodup ∧ (∀ c ∈ exCalls, c.out ∉ [0]) :=
  defined_before_use exBuildLast rfl exCovers exOk

example : exCalls.length = 6 ∧ exCalls.map (·.args) = [[], [1], [0, 2], [3], [3], [4, 5]] := by
  decide

example : ∃ pm sm, (procSets exOrder exDs).getLast? = some (2, SetRes.ok pm sm) ∧
    (∀ (p : Nat) c, exCalls[p]? = some c →
      ∃ pt, look c.out pm = some pt ∧ pt.t = c.out ∧ (∀ i, pt.src ≠ .arg i) ∧
        c.args.length = (depsOf pt.src).length ∧
        ∀ (j : Nat) a dd, c.args[j]? = some a → (depsOf pt.src)[j]? = some dd →
          produced [0] exCalls a = some (resolveTy pm dd)) ∧
    (∃ n, look 7 (final pm sm [0] 7).index = some (some n) ∧
      produced [0] exCalls n = some (resolveTy pm 7)) ∧
    (exCalls ≠ [] → (exCalls.getLast?).map (·.out) = some (resolveTy pm 7)) :=
  argument_types exBuildLast rfl exCovers exOk

/-- `every_call_used` on the diamond map `pmEx` (six calls; `3` is an interface bound to `2`; `2` is shared
    by `C(3) → 4` and `D(2) → 5`) -/
example : ∀ (p : Nat) (c : Call), (final WireP.Solve.Ex.pmEx WireP.Solve.Ex.smEx [0] 7).calls[p]? = some c →
    (∃ (q : Nat) (c' : Call), p < q ∧ (final WireP.Solve.Ex.pmEx WireP.Solve.Ex.smEx [0] 7).calls[q]? = some c' ∧
      ([0].length + p) ∈ c'.args) ∨
    look 7 (final WireP.Solve.Ex.pmEx WireP.Solve.Ex.smEx [0] 7).index = some (some ([0].length + p)) :=
  every_call_used WireP.Solve.Ex.hEx (by decide +kernel)

/-- the witnesses, call by call (`(p, q)`: variable `1 + p` is an argument of call `q > p`): `B`'s result
    (variable 2) feeds `C` through the binding `3 := 2` and `D` directly; the field's variable (6) is the
    one returned -/
example :
    (final WireP.Solve.Ex.pmEx WireP.Solve.Ex.smEx [0] 7).calls.map (fun c => (c.out, c.args)) =
      [(1, []), (2, [0, 1]), (4, [2]), (5, [2]), (6, [3, 4]), (7, [5])] ∧
    (∀ pq ∈ [(0, 1), (1, 2), (1, 3), (2, 4), (3, 4), (4, 5)], pq.1 < pq.2 ∧
      ((final WireP.Solve.Ex.pmEx WireP.Solve.Ex.smEx [0] 7).calls[pq.2]?).any
        (fun c' => decide (([0] : List Ty).length + pq.1 ∈ c'.args)) = true) ∧
    look 7 (final WireP.Solve.Ex.pmEx WireP.Solve.Ex.smEx [0] 7).index = some (some ([0].length + 5)) ∧
    (final WireP.Solve.Ex.pmEx WireP.Solve.Ex.smEx [0] 7).calls.length - 1 = 5 := by
  rw [WireP.Solve.Ex.finalEx]; decide +kernel

/-- the same, spelled as the disjunct of the theorem that holds for each of the six calls -/
example :
    (∃ c', (final WireP.Solve.Ex.pmEx WireP.Solve.Ex.smEx [0] 7).calls[1]? = some c' ∧ 1 + 0 ∈ c'.args) ∧
    (∃ c', (final WireP.Solve.Ex.pmEx WireP.Solve.Ex.smEx [0] 7).calls[2]? = some c' ∧ 1 + 1 ∈ c'.args) ∧
    (∃ c', (final WireP.Solve.Ex.pmEx WireP.Solve.Ex.smEx [0] 7).calls[4]? = some c' ∧ 1 + 2 ∈ c'.args) ∧
    (∃ c', (final WireP.Solve.Ex.pmEx WireP.Solve.Ex.smEx [0] 7).calls[4]? = some c' ∧ 1 + 3 ∈ c'.args) ∧
    (∃ c', (final WireP.Solve.Ex.pmEx WireP.Solve.Ex.smEx [0] 7).calls[5]? = some c' ∧ 1 + 4 ∈ c'.args) ∧
    look 7 (final WireP.Solve.Ex.pmEx WireP.Solve.Ex.smEx [0] 7).index = some (some (1 + 5)) := by
  rw [WireP.Solve.Ex.finalEx]
  refine ⟨⟨_, rfl, ?_⟩, ⟨_, rfl, ?_⟩, ⟨_, rfl, ?_⟩, ⟨_, rfl, ?_⟩, ⟨_, rfl, ?_⟩, ?_⟩ <;> decide

/-- the pipeline form, on `exCalls` (binding `3 := 2`; the struct `4` is shared by the field `5` and `C`) -/
example : ∃ pm sm, (procSets exOrder exDs).getLast? = some (2, SetRes.ok pm sm) ∧
    (∀ (p : Nat) (c : Call), exCalls[p]? = some c →
      (∃ (q : Nat) (c' : Call), p < q ∧ exCalls[q]? = some c' ∧ ([0].length + p) ∈ c'.args) ∨
      look 7 (final pm sm [0] 7).index = some (some ([0].length + p))) ∧
    (exCalls ≠ [] → look 7 (final pm sm [0] 7).index = some (some ([0].length + (exCalls.length - 1)))) :=
  every_call_used_plan exBuildLast rfl exCovers exOk

example : ∀ pq ∈ [(0, 1), (1, 2), (2, 3), (2, 4), (3, 5), (4, 5)], pq.1 < pq.2 ∧
    (exCalls[pq.2]?).any (fun c' => decide (([0] : List Ty).length + pq.1 ∈ c'.args)) = true := by
  decide

/-- the hypothesis of `binders_distinct`, on the naming example of C14 -/
example : ∃ ig, nameInjector 60 WireP.C14.exEnv WireP.C14.exParams WireP.C14.exSteps = some ig :=
  WireP.C14.nameInjector_total 60 _ _ _ (by decide +kernel)

example : sigErrors true true exCalls = [] := by decide +kernel
example : sigErrors true false exCalls ≠ [] := by decide +kernel

/-! Internal packages: what a generated file may import.  Model: `WireV.importableFromC path frm` (wire.go:
`importableFrom`) — may the package with import path `frm` import the package `path` under Go's rule for
internal packages?  The last path element `internal` of `path` decides (`WireV.internalAt`); both paths are
read without their vendor prefix (`WireV.unvendorC`, C16).  The rule is Wire's: an `internal` element has a
`/` before it, so a path that is `internal` or begins with `internal/` has none
(`internalAt "internal/c".toList = none`), whereas cmd/go restricts such a path too. -/
section Importable
open WireP.PathProofs (NoVendorElem unvendor_idem isPrefixC_iff)
open WireP.ImportableProofs (InternalElemAt internalAt_none_iff_elem internalElemAt_iff_split ie_length ie_eq
  importableFromC_congr)

theorem isSuffixC_iff (s h : List Char) : isSuffixC s h = true ↔ ∃ t, h = t ++ s :=
  WireP.ImportableProofs.isSuffixC_iff s h

/-- `Iff.rfl`: unfolds `InternalElemAt` for the reader of the statements below -/
theorem internalElemAt_def (path : List Char) (k : Nat) :
    InternalElemAt path k ↔
      ∃ suf, path.drop k = "/internal".toList ++ suf ∧ (suf = [] ∨ suf.head? = some '/') := Iff.rfl

/-- an `internal` at the head of the path, with no `/` before it, is therefore not found -/
theorem internalAt_none_iff (path : List Char) :
    internalAt path = none ↔
      ¬ ∃ pre suf, path = pre ++ "/internal".toList ++ suf ∧ (suf = [] ∨ suf.head? = some '/') := by
  rw [internalAt_none_iff_elem]
  exact ⟨fun h ⟨pre, suf, hp, hs⟩ => h pre.length ((internalElemAt_iff_split _ _).mpr ⟨pre, suf, rfl, hp, hs⟩),
    fun h k hel => let ⟨pre, suf, _, hp, hs⟩ := (internalElemAt_iff_split _ _).mp hel; h ⟨pre, suf, hp, hs⟩⟩

/-- `internalAt` finds the last `internal` element -/
theorem internalAt_last {path : List Char} {i : Nat} (h : internalAt path = some i) :
    1 ≤ i ∧
    (∃ suf, path.drop (i - 1) = "/internal".toList ++ suf ∧ (suf = [] ∨ suf.head? = some '/')) ∧
    ∀ j, i - 1 < j →
      ¬ ∃ suf, path.drop j = "/internal".toList ++ suf ∧ (suf = [] ∨ suf.head? = some '/') :=
  WireP.ImportableProofs.internalAt_some_iff.mp h

theorem internalAt_some_iff {path : List Char} {i : Nat} :
    internalAt path = some i ↔
      1 ≤ i ∧ InternalElemAt path (i - 1) ∧ ∀ j, i - 1 < j → ¬ InternalElemAt path j :=
  WireP.ImportableProofs.internalAt_some_iff

theorem internalAt_shape (parent : List Char) {rest : List Char}
    (hr : rest = [] ∨ rest.head? = some '/') (hlast : internalAt rest = none) :
    internalAt (parent ++ "/internal".toList ++ rest) = some (parent.length + 1) :=
  WireP.ImportableProofs.internalAt_shape parent hr hlast

/-- conversely every path with an `internal` element has the shape of `internalAt_shape`, with
    `parent = path.take (i - 1)` -/
theorem internalAt_some_shape {path : List Char} {i : Nat} (h : internalAt path = some i) :
    ∃ rest, path = path.take (i - 1) ++ "/internal".toList ++ rest ∧
      (path.take (i - 1)).length + 1 = i ∧
      (rest = [] ∨ rest.head? = some '/') ∧ internalAt rest = none := by
  obtain ⟨h1, ⟨rest, hd, hr⟩, h3⟩ := WireP.ImportableProofs.internalAt_some_iff.mp h
  have hlt := InternalElemAt.add_le ⟨rest, hd, hr⟩
  have hlen : (path.take (i - 1)).length = i - 1 := by rw [List.length_take]; omega
  refine ⟨rest, ?_, by omega, hr, ?_⟩
  · rw [List.append_assoc, ← hd, List.take_append_drop]
  · rw [internalAt_none_iff_elem]
    rintro k ⟨suf, hk, hs⟩
    refine h3 (i - 1 + 9 + k) (by omega) ⟨suf, ?_, hs⟩
    rw [← hk, ← List.drop_drop, ← List.drop_drop, hd, ← ie_length, List.drop_left]

theorem importableFromC_unvendor (path frm : List Char) :
    importableFromC path frm = importableFromC (unvendorC path) (unvendorC frm) :=
  importableFromC_congr (unvendor_idem path).symm (unvendor_idem frm).symm

theorem importable_vendored {path frm : List Char} (hp : NoVendorElem path) (hf : NoVendorElem frm)
    (q q' : List Char) :
    importableFromC (q ++ vendorElem ++ path) (q' ++ vendorElem ++ frm) = importableFromC path frm ∧
    importableFromC ("vendor/".toList ++ path) frm = importableFromC path frm ∧
    importableFromC path (q' ++ vendorElem ++ frm) = importableFromC path frm :=
  WireP.ImportableProofs.importable_vendored hp hf q q'

/-- also a path that is `internal` or begins with `internal/`: Wire's rule, not cmd/go's -/
theorem importable_no_internal {path : List Char} (hp : NoVendorElem path)
    (h : internalAt path = none) (frm : List Char) : importableFromC path frm = true :=
  WireP.ImportableProofs.importable_no_internal hp h frm

theorem importable_no_internal_gen {path : List Char} (h : internalAt (unvendorC path) = none)
    (frm : List Char) : importableFromC path frm = true :=
  WireP.ImportableProofs.importable_no_internal_gen h frm

/-- Wire's rule (Go's, except that a leading `internal` is not an element): `parent/internal…`, with that the last
    `internal` element, may be imported from `parent` and from below it, and from nowhere else. -/
theorem importable_iff {parent rest frm : List Char}
    (hp : NoVendorElem (parent ++ "/internal".toList ++ rest)) (hf : NoVendorElem frm)
    (hr : rest = [] ∨ rest.head? = some '/') (hlast : internalAt rest = none) :
    importableFromC (parent ++ "/internal".toList ++ rest) frm = true ↔
      frm = parent ∨ ∃ x, frm = parent ++ '/' :: x :=
  WireP.ImportableProofs.importable_iff hp hf hr hlast

theorem importable_inside {parent rest frm : List Char}
    (hp : NoVendorElem (parent ++ "/internal".toList ++ rest)) (hf : NoVendorElem frm)
    (hr : rest = [] ∨ rest.head? = some '/') (hlast : internalAt rest = none)
    (hfrm : frm = parent ∨ ∃ x, frm = parent ++ '/' :: x) :
    importableFromC (parent ++ "/internal".toList ++ rest) frm = true :=
  (WireP.ImportableProofs.importable_iff hp hf hr hlast).mpr hfrm

/-- `parent/` must be a prefix of the importer's path: a prefix of the parent's name is not enough -/
theorem importable_outside {parent rest frm : List Char}
    (hp : NoVendorElem (parent ++ "/internal".toList ++ rest)) (hf : NoVendorElem frm)
    (hr : rest = [] ∨ rest.head? = some '/') (hlast : internalAt rest = none)
    (hne : frm ≠ parent) (hpre : isPrefixC (parent ++ ['/']) frm = false) :
    importableFromC (parent ++ "/internal".toList ++ rest) frm = false := by
  refine Bool.eq_false_iff.mpr fun hb => ?_
  rcases (WireP.ImportableProofs.importable_iff hp hf hr hlast).mp hb with h | ⟨x, h⟩
  · exact hne h
  · rw [(isPrefixC_iff _ _).mpr ⟨x, by rw [h, List.append_assoc]; rfl⟩] at hpre
    cases hpre

theorem importable_iff_at {path frm : List Char} {i : Nat} (hp : NoVendorElem path)
    (hf : NoVendorElem frm) (hi : internalAt path = some i) :
    importableFromC path frm = true ↔
      frm = path.take (i - 1) ∨ ∃ x, frm = path.take (i - 1) ++ '/' :: x :=
  WireP.ImportableProofs.importable_iff_at hp hf hi

theorem importable_some_gen {path frm : List Char} {i : Nat}
    (h : internalAt (unvendorC path) = some i) :
    importableFromC path frm = true ↔
      unvendorC frm = (unvendorC path).take (i - 1) ∨
      ∃ x, unvendorC frm = (unvendorC path).take (i - 1) ++ '/' :: x :=
  WireP.ImportableProofs.importable_some_gen h

theorem importable_self_tree {parent : List Char}
    (hp : NoVendorElem (parent ++ "/internal/x".toList)) (hpar : NoVendorElem parent)
    (hsub : NoVendorElem (parent ++ "/sub".toList)) :
    importableFromC (parent ++ "/internal/x".toList) (parent ++ "/sub".toList) = true ∧
    importableFromC (parent ++ "/internal/x".toList) parent = true := by
  have ex : "/x".toList = ['/', 'x'] := String.toList_ofList
  have e : parent ++ "/internal/x".toList = parent ++ "/internal".toList ++ "/x".toList := by
    rw [List.append_assoc, ie_eq, ex]; exact congrArg _ String.toList_ofList
  have es : parent ++ "/sub".toList = parent ++ '/' :: ['s', 'u', 'b'] := congrArg _ String.toList_ofList
  have hl : internalAt "/x".toList = none := by rw [ex]; decide +kernel
  rw [e] at hp ⊢
  exact ⟨importable_inside hp hsub (Or.inr (ex ▸ rfl)) hl (Or.inr ⟨_, es⟩),
    importable_inside hp hpar (Or.inr (ex ▸ rfl)) hl (Or.inl rfl)⟩

-- the `_lit` lemmas: see `WireP/Lemmas/PathProofs.lean`
open WireP.PathProofs WireP.ImportableProofs in
section
example : importableFrom "a/lib/internal/impl" "a/lib/sub" = true := importableFrom_lit rfl rfl (by decide +kernel)
example : importableFrom "a/lib/internal/impl" "a/lib" = true := importableFrom_lit rfl rfl (by decide +kernel)
example : importableFrom "a/lib/internal/impl" "a/app" = false := importableFrom_lit rfl rfl (by decide +kernel)
/-- a prefix of the parent's name is not enough -/
example : importableFrom "a/lib/internal/impl" "a/libx" = false := importableFrom_lit rfl rfl (by decide +kernel)
example : importableFrom "a/lib/internal" "a/lib/sub" = true := importableFrom_lit rfl rfl (by decide +kernel)
example : importableFrom "a/lib/internal" "a" = false := importableFrom_lit rfl rfl (by decide +kernel)
/-- the last `internal` element counts -/
example : importableFrom "a/internal/b/internal/c" "a/internal/b/d" = true :=
  importableFrom_lit rfl rfl (by decide +kernel)
example : importableFrom "a/internal/b/internal/c" "a/x" = false := importableFrom_lit rfl rfl (by decide +kernel)
/-- an element that merely ends in `internal` is no `internal` element -/
example : importableFrom "a/xinternal/c" "z" = true := importableFrom_lit rfl rfl (by decide +kernel)
example : importableFrom "a/internalx/c" "z" = true := importableFrom_lit rfl rfl (by decide +kernel)
/-- a leading `internal` is not treated specially, as in the Go code -/
example : importableFrom "internal/c" "z" = true := importableFrom_lit rfl rfl (by decide +kernel)
/-- vendor prefixes are stripped on both sides -/
example : importableFrom "vendor/a/internal/c" "a/d" = true := importableFrom_lit rfl rfl (by decide +kernel)
example : importableFrom "q/vendor/a/internal/c" "r/vendor/a/d" = true := importableFrom_lit rfl rfl (by decide +kernel)
example : importableFrom "q/vendor/a/internal/c" "q/d" = false := importableFrom_lit rfl rfl (by decide +kernel)
example : internalAt "a/lib/internal/impl".toList = some 6 := internalAt_lit rfl (by decide +kernel)
example : internalAt "a/internal/b/internal/c".toList = some 13 := internalAt_lit rfl (by decide +kernel)
example : internalAt "a/internal/b/internal".toList = some 13 := internalAt_lit rfl (by decide +kernel)
example : internalAt "a/xinternal/c".toList = none := internalAt_lit rfl (by decide +kernel)
/-- hypotheses of `importable_iff` / `importable_self_tree` on `a/lib` + `/internal` + `/impl` -/
example : NoVendorElem ("a/lib".toList ++ "/internal".toList ++ "/impl".toList) ∧
    ("/impl".toList = [] ∨ "/impl".toList.head? = some '/') ∧ internalAt "/impl".toList = none ∧
    NoVendorElem "a/lib/sub".toList ∧ NoVendorElem "a/app".toList ∧ "a/app".toList ≠ "a/lib".toList ∧
    isPrefixC ("a/lib".toList ++ ['/']) "a/app".toList = false := by decide +kernel
example : NoVendorElem ("a/lib".toList ++ "/internal/x".toList) ∧ NoVendorElem "a/lib".toList ∧
    NoVendorElem ("a/lib".toList ++ "/sub".toList) := by decide +kernel
end

end Importable

/-- a package named by a list of files has the synthetic path `command-line-arguments`: the rule is left to the compiler (D42) -/
theorem importable_synthetic (path : String) : importableFromTool path syntheticPath = true := by
  simp [importableFromTool]

theorem importable_real (path frm : String) (h : frm ≠ syntheticPath) :
    importableFromTool path frm = importableFromC path.toList frm.toList := by
  simp [importableFromTool, importableFrom, h]

/-- The types an injector's signature spells (`unnameableType`, `WireV/Nameable.lean`; D41): accepted iff none is an
    unexported type of another package, at any depth: behind pointers, in slices, arrays, channels, maps, signatures,
    struct literals, or as a type argument. -/
theorem signature_nameable_iff (want : Nat) (t : UTy) : unnameable want t = none ↔ NameableOk want t :=
  WireP.Nameable.unnameable_none_iff want t

example : unnameable 0 (.comp [.named 1 0 false [], .named 2 1 true [.comp [.named 3 0 false []]], .leaf]) = none := by decide +kernel
/-- `[]other.Box[other.t]`: the unexported type argument is found -/
example : unnameable 0 (.comp [.named 5 1 true [.named 4 1 false []]]) = some 4 := by decide +kernel
example : unnameable 1 (.comp [.named 5 1 true [.named 4 1 false []]]) = none := by decide +kernel

end WireP.C01
