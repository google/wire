import WireP.Lemmas.PMapPerm
/-! C10 — the result of analysing a provider set does not depend on declaration order.

This file is about one call of `buildProviderMap`.  For the whole pipeline, `WireP.Pipeline.planLast_perm`
reorders the members of every set but keeps each set's list of imports and the order of the sets; that
regrouping the same items into nested sets changes nothing is tested, not proved. -/
namespace WireP.C10
open WireV WireP.C05

/-- Acceptance, characterised without reference to order: without chained bindings, a set is accepted iff
    every type has one source and every binding's concrete type has a (non-binding) source. -/
theorem bpm_ok_iff (args : Option (List Ty)) (imports : List (Nat × PMap)) (provs : List Prov)
    (vals : List Val) (flds : List Fld) (bnds : List Bnd) (hnc : NoChainedBind bnds) :
    (∃ r, buildProviderMap args imports provs vals flds bnds = .ok r) ↔
      (allSources args imports provs vals flds bnds).Nodup ∧
      ∀ b ∈ bnds, b.provided ∈ baseSources args imports provs vals flds :=
  WireP.PMapProofs.bpm_ok_iff hnc

/-- The "if" half holds even with chained bindings. -/
theorem bpm_ok_of (args : Option (List Ty)) (imports : List (Nat × PMap)) (provs : List Prov)
    (vals : List Val) (flds : List Fld) (bnds : List Bnd)
    (hnd : (allSources args imports provs vals flds bnds).Nodup)
    (hp : ∀ b ∈ bnds, b.provided ∈ baseSources args imports provs vals flds) :
    ∃ r, buildProviderMap args imports provs vals flds bnds = .ok r :=
  WireP.PMapProofs.bpm_ok_of hnd hp

/-- Reordering providers, values, fields, bindings and imports, and iterating each imported map in a
    different order, changes neither acceptance nor any lookup in the result — provided no binding's
    concrete type is itself bound in the same set. -/
theorem bpm_perm (args : Option (List Ty)) (imports imports' : List (Nat × PMap))
    (provs provs' : List Prov) (vals vals' : List Val) (flds flds' : List Fld) (bnds bnds' : List Bnd)
    (hi : ImportsPerm imports imports') (hp : provs.Perm provs') (hv : vals.Perm vals')
    (hf : flds.Perm flds') (hb : bnds.Perm bnds') (hnc : NoChainedBind bnds) :
    ((∃ r, buildProviderMap args imports provs vals flds bnds = .ok r) ↔
     (∃ r, buildProviderMap args imports' provs' vals' flds' bnds' = .ok r)) ∧
    ∀ pm sm pm' sm', buildProviderMap args imports provs vals flds bnds = .ok (pm, sm) →
      buildProviderMap args imports' provs' vals' flds' bnds' = .ok (pm', sm') →
      ∀ t, look t pm = look t pm' ∧ look t sm = look t sm' :=
  WireP.PMapProofs.bpm_perm hi hp hv hf hb hnc

/-- The side condition is needed: `Bind(I,J), Bind(J,C)` (I = 0, J = 1, C = 2, `C` provided) is rejected,
    the other order is accepted. -/
theorem bpm_perm_fails_chained :
    ∃ (provs : List Prov) (bnds bnds' : List Bnd), bnds.Perm bnds' ∧ ¬ NoChainedBind bnds ∧
      buildProviderMap none [] provs [] [] bnds = .error [Err.bindMissing 0 1] ∧
      ∃ r, buildProviderMap none [] provs [] [] bnds' = .ok r :=
  WireP.PMapProofs.bpm_perm_fails_chained

def exImports : List (Nat × PMap) :=
  [(1, [(20, ⟨20, .val ⟨5, 20⟩⟩), (21, ⟨21, .val ⟨6, 21⟩⟩)]), (2, [(22, ⟨22, .val ⟨7, 22⟩⟩)])]
def exImports' : List (Nat × PMap) :=
  [(2, [(22, ⟨22, .val ⟨7, 22⟩⟩)]), (1, [(21, ⟨21, .val ⟨6, 21⟩⟩), (20, ⟨20, .val ⟨5, 20⟩⟩)])]
def exProvs : List Prov := [{ id := 1, args := [10], outs := [30, 31] }, { id := 2, args := [], outs := [32] }]
def exBnds : List Bnd := [⟨4, 60, 30⟩, ⟨5, 61, 20⟩]

instance (bnds : List Bnd) : Decidable (NoChainedBind bnds) := by unfold NoChainedBind; infer_instance

example : NoChainedBind exBnds := by decide +kernel
example : ImportsPerm exImports exImports' :=
  ⟨_, List.Perm.swap _ _ _, .cons rfl (List.Perm.refl _) (.cons rfl (List.Perm.swap _ _ _) .nil)⟩
example : (allSources (some [10]) exImports exProvs [⟨2, 40⟩] [⟨3, 30, [50]⟩] exBnds).Nodup ∧
    ∀ b ∈ exBnds, b.provided ∈ baseSources (some [10]) exImports exProvs [⟨2, 40⟩] [⟨3, 30, [50]⟩] := by
  decide +kernel
-- both orders are accepted, with differently ordered association lists
example : (buildProviderMap (some [10]) exImports exProvs [⟨2, 40⟩] [⟨3, 30, [50]⟩] exBnds).toOption.map
    (fun r => r.1.map (·.1)) = some [61, 60, 50, 40, 32, 31, 30, 22, 21, 20, 10] := by decide +kernel
example : (buildProviderMap (some [10]) exImports' exProvs.reverse [⟨2, 40⟩] [⟨3, 30, [50]⟩] exBnds.reverse).toOption.map
    (fun r => r.1.map (·.1)) = some [60, 61, 50, 40, 31, 30, 32, 20, 21, 22, 10] := by decide +kernel

end WireP.C10
