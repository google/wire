import WireV.Generated.Tables
import WireP.Lemmas.CmdProofs
/-! # C17 — `wire gen` / `wire diff`: exit statuses and what is written

Model: `WireV.genExec`, `WireV.diffExec` (cmd/wire/main.go) over an abstract file system (paths and contents are
naturals, content `0` = "no Wire output for this package").  `writeOk`, `headerOk` and the analysis result `load` are
parameters.  The table theorems at the end are closed by `decide` over the regenerated `WireV.Generated` and tie the
model's constants to the `return` statements of the source. -/
namespace WireP.C17
open WireV WireP.CmdProofs

theorem gen_exit (outs : List PkgOut) (writeOk : Nat → Bool) (fs : FS) :
    (genExec true (.ok outs) writeOk fs).2 = 0 ↔
      ∀ o ∈ outs, o.errs = false ∧ (o.content ≠ 0 → writeOk o.outPath = true) :=
  WireP.CmdProofs.gen_exit outs writeOk fs

theorem gen_exit_nil (writeOk : Nat → Bool) (fs : FS) : genExec true (.ok []) writeOk fs = (fs, 0) := rfl

theorem gen_exit_loadErr (h : Bool) (writeOk : Nat → Bool) (fs : FS) : genExec h .loadErr writeOk fs = (fs, 1) :=
  genExec_loadErr h writeOk fs

theorem gen_exit_header (load : LoadRes) (writeOk : Nat → Bool) (fs : FS) : genExec false load writeOk fs = (fs, 1) := rfl

theorem gen_exit_range (h : Bool) (load : LoadRes) (writeOk : Nat → Bool) (fs : FS) :
    (genExec h load writeOk fs).2 = 0 ∨ (genExec h load writeOk fs).2 = 1 := by
  cases h
  · exact Or.inr rfl
  · cases load with
    | loadErr => exact Or.inr rfl
    | ok outs => rw [genExec_ok]; dsimp only; split <;> simp

/-- only the `<prefix>wire_gen.go` of packages with output is ever created or modified -/
theorem gen_writes_only (h : Bool) (load : LoadRes) (writeOk : Nat → Bool) (fs : FS) (p : Nat) :
    fsGet (genExec h load writeOk fs).1 p ≠ fsGet fs p →
      h = true ∧ ∃ outs, load = .ok outs ∧ ∃ o ∈ outs, o.outPath = p ∧ o.content ≠ 0 ∧ writeOk p = true :=
  WireP.CmdProofs.gen_writes_only h load writeOk fs p

/-- a package whose analysis fails (no content) keeps its existing file.  The first two hypotheses only say which path
    is meant, the proof does not use them; `WireP.CmdProofs.gen_failed_untouched` is the form for any path. -/
theorem gen_failed_untouched (h : Bool) (outs : List PkgOut) (writeOk : Nat → Bool) (fs : FS) (o : PkgOut) :
    o ∈ outs → o.content = 0 → (∀ o' ∈ outs, o'.outPath = o.outPath → o'.content = 0) →
      fsGet (genExec h (.ok outs) writeOk fs).1 o.outPath = fsGet fs o.outPath := fun _ _ hall =>
  WireP.CmdProofs.gen_failed_untouched h outs writeOk fs o.outPath (fun o' ho' hp => Or.inl (hall o' ho' hp))

/-- a failing package does not prevent output for the others -/
theorem gen_isolation (outs : List PkgOut) (writeOk : Nat → Bool) (fs : FS) (o : PkgOut) :
    (outs.map (·.outPath)).Nodup → o ∈ outs → o.content ≠ 0 → writeOk o.outPath = true →
      fsGet (genExec true (.ok outs) writeOk fs).1 o.outPath = some o.content :=
  WireP.CmdProofs.gen_isolation outs writeOk fs o

theorem gen_final_fs (outs : List PkgOut) (writeOk : Nat → Bool) (fs : FS) :
    (outs.map (·.outPath)).Nodup →
    (∀ o ∈ outs, o.content ≠ 0 → writeOk o.outPath = true →
        fsGet (genExec true (.ok outs) writeOk fs).1 o.outPath = some o.content) ∧
    (∀ o ∈ outs, o.content = 0 ∨ writeOk o.outPath = false →
        fsGet (genExec true (.ok outs) writeOk fs).1 o.outPath = fsGet fs o.outPath) ∧
    (∀ p, p ∉ outs.map (·.outPath) → fsGet (genExec true (.ok outs) writeOk fs).1 p = fsGet fs p) := by
  refine fun hnd => ⟨fun o ho => gen_isolation outs writeOk fs o hnd ho, fun o ho h => ?_, fun p hp => ?_⟩
  · refine WireP.CmdProofs.gen_failed_untouched true outs writeOk fs _ fun o' ho' hp => ?_
    rwa [WireP.eq_of_nodup_map hnd ho' ho hp]
  · exact WireP.CmdProofs.gen_failed_untouched true outs writeOk fs p
      fun o' ho' hp' => absurd (hp' ▸ List.mem_map_of_mem ho') hp

/-! `diff` is read-only by construction: `diffExec` returns no file system. -/

theorem diff_exit_spec (hs : Nat) (outs : List PkgOut) (fs : FS) :
    (diffExec hs true (.ok outs) fs = 2 ↔ ∃ o ∈ outs, o.errs = true) ∧
    (diffExec hs true (.ok outs) fs = 0 ↔
      (∀ o ∈ outs, o.errs = false) ∧ ∀ o ∈ outs, o.content ≠ 0 → fsGet fs o.outPath = some o.content) ∧
    (diffExec hs true (.ok outs) fs = 1 ↔
      (∀ o ∈ outs, o.errs = false) ∧ ∃ o ∈ outs, o.content ≠ 0 ∧ fsGet fs o.outPath ≠ some o.content) := by
  have hE : (∀ o ∈ outs, o.errs = false) ↔ ¬ ∃ o ∈ outs, o.errs = true := by simp
  have hD : (∀ o ∈ outs, o.content ≠ 0 → fsGet fs o.outPath = some o.content) ↔
      ¬ ∃ o ∈ outs, o.content ≠ 0 ∧ fsGet fs o.outPath ≠ some o.content := by simp
  simp only [diffExec_ok, hE, hD]
  by_cases he : ∃ o ∈ outs, o.errs = true <;>
    by_cases hd : ∃ o ∈ outs, o.content ≠ 0 ∧ fsGet fs o.outPath ≠ some o.content <;> simp [he, hd]

theorem diff_exit_two (hs : Nat) (outs : List PkgOut) (fs : FS) :
    diffExec hs true (.ok outs) fs = 2 ↔ ∃ o ∈ outs, o.errs = true :=
  (diff_exit_spec hs outs fs).1

theorem diff_exit_zero (hs : Nat) (outs : List PkgOut) (fs : FS) :
    diffExec hs true (.ok outs) fs = 0 ↔
      (∀ o ∈ outs, o.errs = false) ∧ ∀ o ∈ outs, o.content ≠ 0 → fsGet fs o.outPath = some o.content :=
  (diff_exit_spec hs outs fs).2.1

/-- an absent file differs -/
theorem diff_exit_one (hs : Nat) (outs : List PkgOut) (fs : FS) :
    diffExec hs true (.ok outs) fs = 1 ↔
      (∀ o ∈ outs, o.errs = false) ∧ ∃ o ∈ outs, o.content ≠ 0 ∧ fsGet fs o.outPath ≠ some o.content :=
  (diff_exit_spec hs outs fs).2.2

theorem diff_exit_loadErr (hs : Nat) (fs : FS) : diffExec hs true .loadErr fs = 2 := rfl

theorem diff_exit_header (hs : Nat) (load : LoadRes) (fs : FS) : diffExec hs false load fs = hs := rfl

theorem diff_exit_range (hs : Nat) (load : LoadRes) (fs : FS) :
    diffExec hs true load fs = 0 ∨ diffExec hs true load fs = 1 ∨ diffExec hs true load fs = 2 := by
  cases load with
  | loadErr => exact Or.inr (Or.inr rfl)
  | ok outs =>
    rw [diffExec_ok]
    split
    · simp
    · split <;> simp

theorem diff_header_status : Generated.diffHeaderStatus = 2 := by decide
/-- `genExec` has the status 1 for an unreadable header built in (`gen_exit_header`), where `diffExec` takes it as a
    parameter: this is the fact about the source that the built-in 1 rests on, and no theorem connects the two. -/
theorem gen_header_status : Generated.genHeaderStatus = 1 := by decide

/-- `rs`: the statuses a command's `Execute` returns, read off the source as `(condition of the enclosing if, status)`.
    Stated over what the statuses mean, not over the literal list, so that a harmless reordering or an added error
    return does not break the tie: every status is in range, the fall-through return is success, and the only
    conditional return of 0 is the "no packages" one. -/
def returnsSound (hi : Nat) (rs : List (String × Nat)) : Bool :=
  rs.all (fun r => r.2 ≤ hi) && rs.getLast? == some ("", 0) &&
    (rs.filter (fun r => r.2 == 0)).all (fun r => r.1 == "" || r.1 == "len(outs) == 0")

-- `gen`, `check` and `show` exit 0 or 1, and 1 on every trouble; `diff` exits 0, 1 or 2
theorem diff_returns_table : returnsSound 2 Generated.diffReturns = true := by decide +kernel

theorem gen_returns_table : returnsSound 1 Generated.genReturns = true := by decide +kernel

theorem check_returns_table : returnsSound 1 Generated.checkReturns = true := by decide +kernel

theorem show_returns_table : returnsSound 1 Generated.showReturns = true := by decide +kernel

/-- refused: a load-error return that says success, a status out of range, no fall-through return -/
example : returnsSound 1 [("err != nil", 0), ("", 0)] = false := by decide +kernel
example : returnsSound 1 [("err != nil", 2), ("", 0)] = false := by decide +kernel
example : returnsSound 1 [("err != nil", 1)] = false := by decide +kernel
example : Generated.genReturns ≠ [] ∧ Generated.diffReturns ≠ [] ∧ Generated.checkReturns ≠ [] ∧
    Generated.showReturns ≠ [] := by decide +kernel

/-- `diff` returns 1 for nothing but a difference, and 2 on every trouble -/
theorem diff_one_only_hadDiff :
    (Generated.diffReturns.filter (fun r => r.2 == 1)).map (·.1) = ["hadDiff"] ∧
    (Generated.diffReturns.filter (fun r => r.1 != "hadDiff" && r.1 != "" && r.1 != "len(outs) == 0")).all (fun r => r.2 == 2) = true := by
  decide +kernel

theorem diff_header_exit (load : LoadRes) (fs : FS) : diffExec Generated.diffHeaderStatus false load fs = 2 := by
  rw [diff_exit_header]; exact diff_header_status

-- three packages: one fails analysis, one generates, one cannot be written

private def outs3 : List PkgOut := [⟨10, true, 0⟩, ⟨20, false, 7⟩, ⟨30, false, 8⟩]
private def w3 : Nat → Bool := fun p => p != 30
private def fs3 : FS := [(10, 1), (30, 3), (99, 9)]

example : (outs3.map (·.outPath)).Nodup := by decide +kernel
example : genExec true (.ok outs3) w3 fs3 = ([(20, 7), (10, 1), (30, 3), (99, 9)], 1) := by decide +kernel
/-- the failing package keeps its file, the good one is written, the unwritable one keeps its file -/
example : fsGet (genExec true (.ok outs3) w3 fs3).1 10 = some 1
    ∧ fsGet (genExec true (.ok outs3) w3 fs3).1 20 = some 7
    ∧ fsGet (genExec true (.ok outs3) w3 fs3).1 30 = some 3 := by decide +kernel
/-- the right-hand side of `gen_exit` holds on a non-empty list -/
example : (genExec true (.ok [⟨10, false, 0⟩, ⟨20, false, 7⟩]) (fun _ => true) fs3).2 = 0 := by decide +kernel
example : diffExec 2 true (.ok outs3) fs3 = 2 := by decide +kernel
example : diffExec 2 true (.ok [⟨20, false, 7⟩, ⟨30, false, 8⟩]) fs3 = 1 := by decide +kernel
example : diffExec 2 true (.ok [⟨20, false, 7⟩, ⟨30, false, 8⟩]) [(30, 8), (20, 7)] = 0 := by decide +kernel
/-- without distinct paths the last write wins: `gen_isolation` needs `Nodup` -/
example : fsGet (genExec true (.ok [⟨20, false, 7⟩, ⟨20, false, 8⟩]) (fun _ => true) []).1 20 = some 8 := by decide +kernel

end WireP.C17
