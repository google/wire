import WireP.Lemmas.NameProofsEnv
import Batteries.Data.Char.AsciiCasing
/-! # C14 — generated identifiers are fresh, distinct and never keywords

`WireV.disambiguate` is the unbounded `for n := 2; ; n++` loop of wire.go with explicit fuel;
`WireV.nameInjector` gives the binders of one injector in the order `injectPass` invents them.
`collides` is any predicate that is true on a finite list `taken` only; the injector theorems
instantiate it with `NameEnv.inFileScope` and `InjNames.inInjector`.

The fuel bounds of the `_total` theorems and of `disambiguate_fresh` ask for `goKeywords.length` more
than their proofs use: they budget an attempt per keyword, but no numbered candidate is a keyword
(`cand_not_keyword`); `disambiguate_fresh_sharp` has the tight bound. -/
namespace WireP.C14
open WireV WireP.NameProofs

/-- the unbounded loop of `disambiguate` terminates, with more fuel than there are names to avoid, and
    returns a fresh non-keyword: `name` itself or `name[_]N` with `N ≥ 2` -/
theorem disambiguate_fresh (fuel : Nat) (name : String) (collides : String → Bool)
    (taken : List String) (ht : ∀ n, collides n = true → n ∈ taken)
    (hf : taken.length + goKeywords.length + 1 ≤ fuel) :
    ∃ r, disambiguate fuel name collides = some r ∧ collides r = false ∧ isKeyword r = false ∧
      (r = name ∨ ∃ n, 2 ≤ n ∧
        r = (if endsInDigit name then name ++ "_" else name) ++ toString n) :=
  NameProofs.disambiguate_fresh fuel name collides taken ht hf

/-- the numbered candidates end in a digit, hence are never keywords, so only the colliding names
    count; `|taken| + 1` is tight (examples below) -/
theorem disambiguate_fresh_sharp (fuel : Nat) (name : String) (collides : String → Bool)
    (taken : List String) (ht : ∀ n, collides n = true → n ∈ taken)
    (hf : taken.length + 1 ≤ fuel) :
    ∃ r, disambiguate fuel name collides = some r ∧ collides r = false ∧ isKeyword r = false ∧
      (r = name ∨ ∃ n, 2 ≤ n ∧
        r = (if endsInDigit name then name ++ "_" else name) ++ toString n) :=
  NameProofs.disambiguate_fresh_sharp fuel name collides taken ht hf

/-- whatever the fuel -/
theorem disambiguate_some_spec (fuel : Nat) (name : String) (collides : String → Bool) (r : String)
    (h : disambiguate fuel name collides = some r) : collides r = false ∧ isKeyword r = false :=
  disambiguate_ok h

/-- a usable name is returned unchanged -/
theorem disambiguate_keep (fuel : Nat) (name : String) (collides : String → Bool)
    (hk : isKeyword name = false) (hc : collides name = false) :
    disambiguate fuel name collides = some name := by
  simp [disambiguate_eq, hk, hc]

/-- otherwise the number appended is the least `N ≥ 2` whose candidate is usable -/
theorem disambiguate_least (fuel : Nat) (name : String) (collides : String → Bool) (r : String)
    (hb : (isKeyword name || collides name) = true) (h : disambiguate fuel name collides = some r) :
    ∃ n, 2 ≤ n ∧ r = (if endsInDigit name then name ++ "_" else name) ++ toString n ∧
      ∀ k, 2 ≤ k → k < n →
        (isKeyword ((if endsInDigit name then name ++ "_" else name) ++ toString k) ||
          collides ((if endsInDigit name then name ++ "_" else name) ++ toString k)) = true := by
  rcases (disambiguate_some h).2.2 with ⟨_, hg⟩ | ⟨_, n, hn, _, hr, hl⟩
  · rw [hb] at hg; cases hg
  · exact ⟨n, hn, hr, fun k h1 h2 => by rw [Bool.or_eq_true]; exact Or.inr (hl k h1 h2)⟩

/-- what makes the pigeonhole argument for termination work -/
theorem candidates_injective (base : String) (m n : Nat)
    (h : base ++ toString m = base ++ toString n) : m = n :=
  cand_inj base h

/-- for any `transform` -/
theorem typeVariableName_fresh (fuel : Nat) (shape : TyShape) (defaultName : String)
    (transform : String → String) (collides : String → Bool) (r : String)
    (h : typeVariableName fuel shape defaultName transform collides = some r) :
    collides r = false ∧ isKeyword r = false :=
  typeVariableName_some h

theorem typeVariableName_total (fuel : Nat) (shape : TyShape) (defaultName : String)
    (transform : String → String) (collides : String → Bool)
    (taken : List String) (ht : ∀ n, collides n = true → n ∈ taken)
    (hf : taken.length + goKeywords.length + 1 ≤ fuel) :
    ∃ r, typeVariableName fuel shape defaultName transform collides = some r :=
  typeVariableName_isSome shape defaultName transform ht (by omega)

/-- all binders of a generated injector are pairwise distinct, shadow nothing in file scope (imports,
    value variables, package scope, universe) and are not keywords; there is one per parameter, per
    planned call and per cleanup -/
theorem nameInjector_distinct (fuel : Nat) (e : NameEnv) (ps : List ParamInfo) (ss : List StepInfo)
    (ig : InjNames) (h : nameInjector fuel e ps ss = some ig) :
    (ig.all.Nodup ∧ ∀ n ∈ ig.all, e.inFileScope n = false ∧ isKeyword n = false) ∧
    (ig.params.length = ps.length ∧ ig.locals.length = ss.length ∧
      ig.cleanups.length = (ss.filter (fun s => s.isFunc && s.hasCleanup)).length) :=
  ⟨(nameInjector_spec h).1, (nameInjector_spec h).2.2⟩

/-- the error variable is the one `disambiguate("err", …)` picks against the file scope alone -/
theorem nameInjector_errVar (fuel : Nat) (e : NameEnv) (ps : List ParamInfo) (ss : List StepInfo)
    (ig : InjNames) (h : nameInjector fuel e ps ss = some ig) :
    disambiguate fuel "err" e.inFileScope = some ig.errVar :=
  (nameInjector_spec h).2.1

theorem nameInjector_total (fuel : Nat) (e : NameEnv) (ps : List ParamInfo) (ss : List StepInfo)
    (hf : e.fileScope.length + e.imports.length + e.values.length + ps.length + 2 * ss.length
      + goKeywords.length + 3 ≤ fuel) :
    ∃ ig, nameInjector fuel e ps ss = some ig :=
  nameInjector_isSome ps ss (by rw [scopeList_length]; omega)

/-- a new import gets an identifier that is not `err`, not in file scope and not a keyword -/
theorem qualifyImport_fresh (fuel : Nat) (e e' : NameEnv) (pkgName path nm : String)
    (h : qualifyImport fuel e pkgName path = some (nm, e')) (hp : path ∉ e.imports.map (·.1)) :
    nm ≠ "err" ∧ e.inFileScope nm = false ∧ isKeyword nm = false ∧
      e'.imports = e.imports ++ [(path, nm)] ∧ e'.values = e.values ∧ e'.fileScope = e.fileScope :=
  NameProofs.qualifyImport_fresh h hp

/-- an already imported path gets the same identifier again and the environment is unchanged -/
theorem qualifyImport_again (fuel : Nat) (e : NameEnv) (pkgName path nm : String)
    (hnd : (e.imports.map (·.1)).Nodup) (hm : (path, nm) ∈ e.imports) :
    qualifyImport fuel e pkgName path = some (nm, e) := by
  simp only [qualifyImport, (find?_key_eq_some_iff hnd).2 ⟨hm, rfl⟩]

/-- the import identifiers stay pairwise distinct, and distinct from the value variables and the
    package scope -/
theorem qualifyImport_preserves (fuel : Nat) (e e' : NameEnv) (pkgName path nm : String)
    (h : qualifyImport fuel e pkgName path = some (nm, e')) (hi : ImportsOK e) : ImportsOK e' := by
  rcases qualifyImport_some h with ⟨_, rfl⟩ | ⟨hp, _, rfl⟩
  · exact hi
  · obtain ⟨i1, i2, i3⟩ := hi
    obtain ⟨s1, s2, s3⟩ := inFileScope_false_parts (NameProofs.qualifyImport_fresh h hp).2.1
    simp only [ImportsOK, List.map_append, List.map_cons, List.map_nil, nodup_concat,
      List.mem_append, List.mem_singleton]
    exact ⟨⟨s1, i1⟩, ⟨hp, i2⟩, fun n hn => hn.elim (i3 n) (fun hn => hn ▸ ⟨s2, s3⟩)⟩

theorem valueVarName_preserves (fuel : Nat) (e e' : NameEnv) (shape : TyShape) (nm : String)
    (h : valueVarName fuel e shape = some (nm, e')) (hi : ImportsOK e) : ImportsOK e' := by
  obtain ⟨hs, _, rfl, _⟩ := NameProofs.valueVarName_fresh h
  refine ⟨hi.1, hi.2.1, fun n hn => ⟨?_, (hi.2.2 n hn).2⟩⟩
  simp only [List.mem_append, List.mem_singleton, not_or]
  exact ⟨(hi.2.2 n hn).1, fun hn' => (inFileScope_false_parts hs).1 (hn' ▸ hn)⟩

theorem qualifyImport_total (fuel : Nat) (e : NameEnv) (pkgName path : String)
    (hf : e.fileScope.length + e.imports.length + e.values.length + goKeywords.length + 2 ≤ fuel) :
    ∃ r, qualifyImport fuel e pkgName path = some r := by
  have hl := scopeList_length e
  simp only [qualifyImport]
  split
  · exact ⟨_, rfl⟩
  · obtain ⟨r, hr⟩ := disambiguate_isSome (fuel := fuel) pkgName (taken := "err" :: scopeList e)
      (collides := fun n => n == "err" || e.inFileScope n)
      (fun n hn => by simpa [inFileScope_iff] using hn) (by rw [List.length_cons]; omega)
    simp only [hr]
    exact ⟨_, rfl⟩

/-- the new value variable is not in file scope, not a keyword, and the value variables stay pairwise
    distinct -/
theorem valueVarName_fresh (fuel : Nat) (e e' : NameEnv) (shape : TyShape) (nm : String)
    (h : valueVarName fuel e shape = some (nm, e')) :
    e.inFileScope nm = false ∧ isKeyword nm = false ∧
      e' = { e with values := e.values ++ [nm] } ∧ (e.values.Nodup → e'.values.Nodup) :=
  NameProofs.valueVarName_fresh h

theorem valueVarName_total (fuel : Nat) (e : NameEnv) (shape : TyShape)
    (hf : e.fileScope.length + e.imports.length + e.values.length + goKeywords.length + 1 ≤ fuel) :
    ∃ r, valueVarName fuel e shape = some r := by
  obtain ⟨r, hr⟩ := typeVariableName_isSome (fuel := fuel) shape "" valueVarTransform
    (fun n => (inFileScope_iff e n).1) (by rw [scopeList_length]; omega)
  simp only [valueVarName, hr]
  exact ⟨_, rfl⟩

theorem exportName_idem (s : String) : exportName (exportName s) = exportName s := by
  cases hs : s.toList with
  | nil =>
    have h1 : exportName s = "" := by simp [exportName, hs]
    rw [h1]; rfl
  | cons c rest =>
    by_cases hu : c.isUpper = true
    · have h1 : exportName s = s := by simp [exportName, hs, hu]
      rw [h1, h1]
    · have h1 : exportName s = String.ofList (c.toUpper :: rest) := by simp [exportName, hs, hu]
      rw [h1]
      simp only [exportName, String.toList_ofList, Char.toUpper_toUpper_eq_toUpper]
      split <;> rfl

theorem unexportName_of_not_upper (s : String)
    (h : ∀ c rest, s.toList = c :: rest → c.isUpper = false) : unexportName s = s := by
  cases hs : s.toList with
  | nil =>
    have : s = "" := by
      apply String.toList_inj.1; simpa using hs
    subst this; rfl
  | cons c rest =>
    simp [unexportName, hs, h c rest hs]

example : disambiguate 40 "err" (fun n => ["err", "err2"].contains n) = some "err3" := by decide +kernel
example : disambiguate 40 "foo1" (fun n => ["foo1"].contains n) = some "foo1_2" := by decide +kernel
example : disambiguate 40 "select" (fun _ => false) = some "select2" := by decide +kernel
example : disambiguate 40 "x" (fun n => ["y"].contains n) = some "x" := by decide +kernel
/-- the fuel bound of `disambiguate_fresh` is satisfiable; too little fuel really fails -/
example : ["err", "err2"].length + goKeywords.length + 1 ≤ 40 := by decide +kernel
example : disambiguate 1 "err" (fun n => ["err", "err2"].contains n) = none := by decide +kernel
/-- `|taken| + 1` is tight: a keyword name and `|taken|` blocked candidates -/
example : disambiguate 2 "go" (fun n => ["go2", "go3"].contains n) = none := by decide +kernel
example : disambiguate 3 "go" (fun n => ["go2", "go3"].contains n) = some "go4" := by decide +kernel

/-- file scope holding `err`, the builtin `int`, an import `http` and a value variable -/
def exEnv : NameEnv :=
  { fileScope := ["err", "int", "Foo", "NewFoo"], imports := [("net/http", "http")],
    values := ["_wireIntValue"] }
/-- parameters named `err`, `cleanup`, `_` -/
def exParams : List ParamInfo :=
  [⟨"err", .basic "int"⟩, ⟨"cleanup", .basic "string"⟩, ⟨"_", .named "Select" none⟩]
/-- results named like a keyword after unexporting (`Select`), like an import (`Http`), like a
    universe name (`int`), and an unnamed type -/
def exSteps : List StepInfo :=
  [⟨.named "Select" none, true, true⟩, ⟨.named "Http" none, true, true⟩,
   ⟨.basic "int", false, false⟩, ⟨.other, true, false⟩]

example : (nameInjector 60 exEnv exParams exSteps).map
      (fun ig => (ig.errVar, ig.params, ig.locals, ig.cleanups)) =
    some ("err2", ["err3", "cleanup", "select2"], ["select3", "http2", "int2", "v"],
      ["cleanup2", "cleanup3"]) := by decide +kernel
example : exEnv.fileScope.length + exEnv.imports.length + exEnv.values.length + exParams.length
    + 2 * exSteps.length + goKeywords.length + 3 ≤ 60 := by decide +kernel

example : ImportsOK exEnv := by
  refine ⟨by decide +kernel, by decide +kernel, ?_⟩
  intro n hn
  have : n = "http" := by simpa [exEnv] using hn
  subst this; exact ⟨by decide +kernel, by decide +kernel⟩
example : (qualifyImport 40 exEnv "http" "example.com/http").map (·.1) = some "http2" := by decide +kernel
example : (qualifyImport 40 exEnv "err" "example.com/err").map (·.1) = some "err2" := by decide +kernel
example : (qualifyImport 40 exEnv "other" "net/http").map (·.1) = some "http" := by decide +kernel
example : "example.com/http" ∉ exEnv.imports.map (·.1) := by decide +kernel
example : (valueVarName 40 exEnv (.basic "int")).map (·.1) = some "_wireIntValue2" := by decide +kernel
example : (valueVarName 40 exEnv (.named "Foo" (some "bar"))).map (·.1) = some "_wireFooValue" := by
  decide +kernel
example : exportName "foo" = "Foo" ∧ exportName "Foo" = "Foo" ∧ unexportName "HTTPServer" = "httpServer"
    ∧ unexportName "foo" = "foo" := by decide +kernel

end WireP.C14
