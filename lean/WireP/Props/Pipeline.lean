import WireP.Lemmas.PipelineSpec
import WireP.Lemmas.PipelineAccept
import WireP.Lemmas.PipelinePerm
/-! C02 / C06 / C08 / C10 / C11 for the whole modelled pipeline.  The model is `WireV.planLast`: `procSets`
(= `buildProviderMap` + `verifyAcyclic` per set, in dependency order) followed by `solve` +
`verifyArgsUsed` on the last set.

The planner theorems carry the standing hypotheses `H pm given` and `GivenArgs pm given` (or its
consequences `GivenSelf`, `GivenLeaf`).  Here they, and `SrcTotal pm sm`, which no planner theorem needs,
are proved of every map the model's own front half accepts (`planLast_hyps`).  Two hypotheses on the shape
of the input remain, `BuildLast ds` and `OrderCovers order ds`; `planLast_ok_spec` has no other.

The rejection theorems state the defect on the model's own intermediate output: the accepted map of the
last set, or the maps of its imports and what `buildProviderMap` makes of them.  There is one for each of
four ways of violating C10's "well-formed": (a) a type with two sources, (b) a cycle, (c) a needed type
with no source, (d) a direct item of the last set that nothing needs.  In a set that the last one imports,
(a) and (b) reach the verdict as a failed import.  The fifth way, a binding whose concrete type the set does
not provide (`Err.bindMissing`), has no rejection theorem for `planLast`; `C05.bind_needs_concrete` covers
one call of `buildProviderMap`. -/
namespace WireP.Pipeline
open WireV WireP.C05 WireP.C07 WireP.C10 WireP.Solve WireP.PipelineProofs

/-- The detector's "no cycle" is the planner's "well-founded": `Cyclic (succOf pm)` is about the graph
    `verifyAcyclic` walks, `Acyclic pm` about the relation the planner recurses on. -/
theorem acyclic_of_not_cyclic {pm : PMap} (hcc : ConcClosed pm) (hnc : ¬ Cyclic (succOf pm)) :
    Acyclic pm :=
  WireP.PipelineProofs.acyclic_of_not_cyclic hcc hnc

theorem acyclic_iff_not_cyclic {pm : PMap} (hcc : ConcClosed pm) :
    Acyclic pm ↔ ¬ Cyclic (succOf pm) :=
  ⟨not_cyclic_of_acyclic hcc, WireP.PipelineProofs.acyclic_of_not_cyclic hcc⟩

theorem planLast_hyps {order : List Ty} {ds : List SetDef} {d : SetDef} {id : Nat} {pm : PMap}
    {sm : SMap} (hbl : BuildLast ds) (hd : ds.getLast? = some d)
    (hl : (procSets order ds).getLast? = some (id, SetRes.ok pm sm))
    (horder : ∀ k, (look k pm).isSome → k ∈ order) :
    H pm (d.args.getD []) ∧ GivenArgs pm (d.args.getD []) ∧ SrcTotal pm sm :=
  WireP.PipelineProofs.planLast_hyps hbl hd hl horder

/-- `OrderCovers` gives the `horder` of `planLast_hyps` (and of C07) for every accepted set. -/
theorem orderCovers_keys {order : List Ty} {ds : List SetDef} (h : OrderCovers order ds)
    {r : Nat × SetRes} (hr : r ∈ procSets order ds) {pm : PMap} {sm : SMap}
    (hok : r.2 = SetRes.ok pm sm) : ∀ k, (look k pm).isSome → k ∈ order :=
  procSets_covered h (hok ▸ (show (r.1, r.2) ∈ procSets order ds from hr))

/-- An `.ok` verdict: the last set was accepted with the map `buildProviderMap` makes of its items and the
    maps of its imports (so C05's `LookupSpec` describes it), its provider graph has no cycle, and the
    call list has every planner property (`PlanSpec`). -/
theorem planLast_ok_spec {order : List Ty} {ds : List SetDef} {d : SetDef} {out : Ty}
    {calls : List Call} (hbl : BuildLast ds) (hd : ds.getLast? = some d)
    (horder : OrderCovers order ds) (h : planLast order ds out = .ok calls) :
    ∃ pm sm impMaps, (procSets order ds).getLast? = some (d.id, SetRes.ok pm sm) ∧
      importsOf (procSets order ds.dropLast) d = .ok impMaps ∧
      buildProviderMap d.args impMaps d.provs d.vals d.flds d.bnds = .ok (pm, sm) ∧
      ¬ Cyclic (succOf pm) ∧
      PlanSpec d (impIdsOf (procSets order ds) d) pm sm (d.args.getD []) out calls :=
  WireP.PipelineProofs.planLast_ok_spec hbl hd horder h

/-- `PlanSpec` spelled out, so that the statement can be read here. -/
theorem planSpec_unfolded {d : SetDef} {impIds : List Nat} {pm : PMap} {sm : SMap} {given : List Ty}
    {out : Ty} {calls : List Call} (s : PlanSpec d impIds pm sm given out calls) :
    calls = (final pm sm given out).calls ∧
    -- C02: each call
    (∀ (p : Nat) c, calls[p]? = some c →
      ∃ pt, look c.out pm = some pt ∧ pt.t = c.out ∧ (∀ i, pt.src ≠ .arg i) ∧
        mkCall c.out pt.src c.args = some c ∧ c.args.length = (depsOf pt.src).length ∧
        ∀ (j : Nat) a dd, c.args[j]? = some a → (depsOf pt.src)[j]? = some dd →
          a < given.length + p ∧ produced given calls a = some (resolveTy pm dd)) ∧
    -- C02: nothing built twice, nothing given built, only needed types built
    (calls.map (·.out)).Nodup ∧ (∀ c ∈ calls, c.out ∉ given) ∧ (∀ c ∈ calls, Reach pm out c.out) ∧
    -- C02: the result
    (∃ n, look out (final pm sm given out).index = some (some n) ∧
      produced given calls n = some (resolveTy pm out)) ∧
    (calls ≠ [] → (calls.getLast?).map (·.out) = some (resolveTy pm out)) ∧
    -- C06: nothing needed is missing
    (∀ u, Reach pm out u → u ∈ given ∨ (look u pm).isSome) ∧
    -- C08: every direct item is used
    (∀ src e, DirectItem d impIds src e → ∃ t, Reach pm out t ∧ t ∉ given ∧ look t sm = some src) ∧
    -- C11: a binding produces no call and shares the variable of its concrete type
    (∀ k pt, look k pm = some pt → pt.t ≠ k → ∀ c ∈ calls, c.out ≠ k) ∧
    (∀ k pt, look k pm = some pt → pt.t ≠ k → Reach pm out k →
      ∃ n, look k (final pm sm given out).index = some (some n) ∧
        look pt.t (final pm sm given out).index = some (some n) ∧
        produced given calls n = some pt.t) :=
  ⟨s.calls_eq, s.call_sound, s.outs_nodup, s.outs_not_given, s.only_needed, s.result, s.result_last,
    s.no_missing, s.all_used, s.bind_no_call, s.bind_value⟩

/-- `all_used`, which is stated with source identities, read on the items.  Without `DistinctIds` (Go:
    pointers) this is false in the model: of two providers with the same `id`, one of them needed, both
    are "used" for `verifyArgsUsed`. -/
theorem items_used {d : SetDef} {impMaps : List (Nat × PMap)} {impIds : List Nat} {pm : PMap}
    {sm : SMap} {given : List Ty} {out : Ty}
    (hb : buildProviderMap d.args impMaps d.provs d.vals d.flds d.bnds = .ok (pm, sm))
    (hids : DistinctIds d)
    (hu : ∀ src e, DirectItem d impIds src e →
      ∃ t, Reach pm out t ∧ t ∉ given ∧ look t sm = some src) :
    (∀ p ∈ d.provs, ∃ t ∈ p.outs, Reach pm out t ∧ t ∉ given) ∧
    (∀ v ∈ d.vals, Reach pm out v.out ∧ v.out ∉ given) ∧
    (∀ f ∈ d.flds, ∃ t ∈ f.outs, Reach pm out t ∧ t ∉ given) ∧
    (∀ b ∈ d.bnds, Reach pm out b.iface ∧ b.iface ∉ given) ∧
    (∀ i ∈ impIds, ∃ ip ∈ impMaps, ip.1 = i ∧ ∃ kv ∈ ip.2, Reach pm out kv.1 ∧ kv.1 ∉ given) := by
  refine ⟨fun p hp => ?_, fun v hv => ?_, fun f hf => ?_, fun b hbm => ?_, fun i hi => ?_⟩
  · obtain ⟨t, hr, hng, hl⟩ := hu _ _ (.prov p hp)
    obtain ⟨p', hp', e, ht⟩ := PMapProofs.sm_src_spec hb hl
    cases eq_of_nodup_map hids.provs hp hp' e.symm
    exact ⟨t, ht, hr, hng⟩
  · obtain ⟨t, hr, hng, hl⟩ := hu _ _ (.val v hv)
    obtain ⟨v', hv', e, rfl⟩ := PMapProofs.sm_src_spec hb hl
    cases eq_of_nodup_map hids.vals hv hv' e.symm
    exact ⟨hr, hng⟩
  · obtain ⟨t, hr, hng, hl⟩ := hu _ _ (.fld f hf)
    obtain ⟨f', hf', e, ht⟩ := PMapProofs.sm_src_spec hb hl
    cases eq_of_nodup_map hids.flds hf hf' e.symm
    exact ⟨t, ht, hr, hng⟩
  · obtain ⟨t, hr, hng, hl⟩ := hu _ _ (.bnd b hbm)
    obtain ⟨b', hb', e, rfl⟩ := PMapProofs.sm_src_spec hb hl
    cases eq_of_nodup_map hids.bnds hbm hb' e.symm
    exact ⟨hr, hng⟩
  · obtain ⟨t, hr, hng, hl⟩ := hu _ _ (.imp i hi)
    obtain ⟨ip, hip, e, kv, hkv, rfl⟩ := PMapProofs.sm_src_spec hb hl
    exact ⟨ip, hip, e, kv, hkv, hr, hng⟩

/-- (c) A needed type that is neither given nor provided: the error list names that type, and every entry
    is a true missing-provider diagnostic. -/
theorem planLast_rejects_missing {order : List Ty} {ds : List SetDef} {d : SetDef} {id : Nat}
    {pm : PMap} {sm : SMap} {out t : Ty} (hbl : BuildLast ds) (hd : ds.getLast? = some d)
    (horder : OrderCovers order ds)
    (hl : (procSets order ds).getLast? = some (id, SetRes.ok pm sm))
    (hr : Reach pm out t) (hlp : look t pm = none) (hng : t ∉ d.args.getD []) :
    ∃ es, planLast order ds out = .errs es ∧ (∃ up, Err.noProvider t up ∈ es) ∧
      ∀ e ∈ es, ∃ t' up', e = Err.noProvider t' up' ∧ look t' pm = none ∧
        t' ∉ d.args.getD [] ∧ Reach pm out t' := by
  obtain ⟨hH, hga, -⟩ := planLast_hyps hbl hd hl (last_covered horder hl)
  obtain ⟨up, hup⟩ := missing_named_in_errs (sm := sm) hH hga.leaf hlp hng hr
  rw [planLast_of_ok hd hl]
  exact ⟨_, solve_errs_of_errs (solve_terminates hH) (List.ne_nil_of_mem hup), ⟨up, hup⟩,
    solve_missing_named hH.concClosed hH.givenNodup⟩

/-- (d) A direct item of the last set that is the source of no needed non-given type.  The item's own
    "unused" diagnostic is promised only if no needed type is missing: `solve` reports missing types
    first and stops. -/
theorem planLast_rejects_unused {order : List Ty} {ds : List SetDef} {d : SetDef} {id : Nat}
    {pm : PMap} {sm : SMap} {out : Ty} {src : SrcId} {e : Err} (hbl : BuildLast ds)
    (hd : ds.getLast? = some d) (horder : OrderCovers order ds)
    (hl : (procSets order ds).getLast? = some (id, SetRes.ok pm sm))
    (hitem : DirectItem d (impIdsOf (procSets order ds) d) src e)
    (hun : ¬ ∃ t, Reach pm out t ∧ t ∉ d.args.getD [] ∧ look t sm = some src) :
    ∃ es, planLast order ds out = .errs es ∧ es ≠ [] ∧
      ((∀ u, Reach pm out u → u ∈ d.args.getD [] ∨ (look u pm).isSome) → e ∈ es) := by
  obtain ⟨hH, hga, -⟩ := planLast_hyps hbl hd hl (last_covered horder hl)
  have hmem : e ∈ verifyArgsUsed d _ (final pm sm (d.args.getD []) out).used :=
    (mem_verifyArgsUsed_iff ..).mpr
      ⟨src, hitem, fun hu => hun (used_sound hH.concClosed hH.givenNodup src hu)⟩
  rw [planLast_of_ok hd hl]
  by_cases he : (final pm sm (d.args.getD []) out).errs = []
  · exact ⟨_, solve_errs_of_unused (solve_terminates hH) he (List.ne_nil_of_mem hmem),
      List.ne_nil_of_mem hmem, fun _ => hmem⟩
  · exact ⟨_, solve_errs_of_errs (solve_terminates hH) he, he,
      fun hall => absurd (solve_missing_if hH.concClosed hH.givenNodup hall) he⟩

/-- (b) A cycle in the map of the last set, whether or not the requested type needs the cyclic part: the
    error list is non-empty and consists of cycle diagnostics, each a real closed walk.  A cycle in an
    earlier set is covered only as a failed import. -/
theorem planLast_rejects_cycle {order : List Ty} {ds : List SetDef} {d : SetDef}
    {impMaps : List (Nat × PMap)} {pm : PMap} {sm : SMap} (out : Ty)
    (hd : ds.getLast? = some d) (horder : OrderCovers order ds)
    (himp : importsOf (procSets order ds.dropLast) d = .ok impMaps)
    (hb : buildProviderMap d.args impMaps d.provs d.vals d.flds d.bnds = .ok (pm, sm))
    (hc : Cyclic (succOf pm)) :
    ∃ es, planLast order ds out = .errs es ∧ (∃ tr, Err.cycle tr ∈ es) ∧
      ∀ e ∈ es, ∃ tr, e = Err.cycle tr ∧ IsCycleTrail (succOf pm) tr :=
  have hcov := next_covered horder (List.dropLast_subset ds) (List.mem_of_getLast? hd) himp hb
  (procSet_cyclic_rejected himp hb hcov hc).imp fun _ h => ⟨planLast_of_err hd h.1 out, h.2⟩

/-- (a) A type with two sources in the last set, own items and imported maps taken together. -/
theorem planLast_rejects_dup {order : List Ty} {ds : List SetDef} {d : SetDef}
    {impMaps : List (Nat × PMap)} (out : Ty) (hd : ds.getLast? = some d)
    (himp : importsOf (procSets order ds.dropLast) d = .ok impMaps)
    (hdup : ¬ (allSources d.args impMaps d.provs d.vals d.flds d.bnds).Nodup) :
    ∃ es, planLast order ds out = .errs es ∧ es ≠ [] :=
  (procSet_dup_rejected himp hdup).imp fun _ h => ⟨planLast_of_err hd h.1 out, h.2⟩

/-- (a) If moreover every binding's concrete type has a base source, some `Err.multi t` is reported. -/
theorem planLast_rejects_dup_named {order : List Ty} {ds : List SetDef} {d : SetDef}
    {impMaps : List (Nat × PMap)} (out : Ty) (hd : ds.getLast? = some d)
    (himp : importsOf (procSets order ds.dropLast) d = .ok impMaps)
    (hdup : ¬ (allSources d.args impMaps d.provs d.vals d.flds d.bnds).Nodup)
    (hp : ∀ b ∈ d.bnds, b.provided ∈ baseSources d.args impMaps d.provs d.vals d.flds) :
    ∃ es t, planLast order ds out = .errs es ∧ Err.multi t ∈ es :=
  let ⟨es, t, hb, hm⟩ := PMapProofs.bpm_dup_named d.args impMaps d.provs d.vals d.flds d.bnds hdup hp
  ⟨es, t, planLast_of_err hd (procSet_bpm_error himp hb) out, hm⟩

/-- A rejected (or non-existent) set directly imported by the last one is named in the error list. -/
theorem planLast_rejects_import {order : List Ty} {ds : List SetDef} {d : SetDef} {i : Nat}
    (out : Ty) (hd : ds.getLast? = some d) (hi : i ∈ d.imports)
    (hf : (procSets order ds.dropLast)[i]? = none ∨
      ∃ id es, (procSets order ds.dropLast)[i]? = some (id, SetRes.err es)) :
    ∃ es, planLast order ds out = .errs es ∧
      Err.importFailed (match (procSets order ds.dropLast)[i]? with
        | some (id, _) => id | none => 0) ∈ es :=
  (procSet_import_failed hi hf).imp fun _ h => ⟨planLast_of_err hd h.1 out, h.2⟩

/-- (a) A type with two sources in a set directly imported by the last one. -/
theorem planLast_rejects_dup_import {order : List Ty} {ds : List SetDef} {d dj : SetDef} {j : Nat}
    {impMaps : List (Nat × PMap)} (out : Ty) (hd : ds.getLast? = some d)
    (hj : ds.dropLast[j]? = some dj) (hi : j ∈ d.imports)
    (himp : importsOf (procSets order (ds.dropLast.take j)) dj = .ok impMaps)
    (hdup : ¬ (allSources dj.args impMaps dj.provs dj.vals dj.flds dj.bnds).Nodup) :
    ∃ es, planLast order ds out = .errs es ∧ Err.importFailed dj.id ∈ es := by
  obtain ⟨es', hp, -⟩ := procSet_dup_rejected (order := order) himp hdup
  have hres : (procSets order ds.dropLast)[j]? = some (dj.id, SetRes.err es') := by
    rw [procSets_getElem? hj, hp]
  have := planLast_rejects_import (order := order) out hd hi (Or.inr ⟨_, _, hres⟩)
  rwa [hres] at this

/-- Failure propagates along imports, one step at a time.  (The disjunct `= none` of `hf` cannot occur:
    `i < j < ds.length`.) -/
theorem procSets_err_propagates {order : List Ty} {ds : List SetDef} {j i : Nat} {dj : SetDef}
    (h : ds[j]? = some dj) (hi : i ∈ dj.imports) (hij : i < j)
    (hf : (procSets order ds)[i]? = none ∨ ∃ id es, (procSets order ds)[i]? = some (id, SetRes.err es)) :
    ∃ es, (procSets order ds)[j]? = some (dj.id, SetRes.err es) ∧ es ≠ [] := by
  have hpre : (procSets order (ds.take j))[i]? = (procSets order ds)[i]? := by
    rw [procSets_take, List.getElem?_take_of_lt hij]
  obtain ⟨es, hes, hm⟩ := procSet_import_failed (order := order) hi (hpre ▸ hf)
  exact ⟨es, by rw [procSets_getElem? h, hes], List.ne_nil_of_mem hm⟩

/-- Completeness of acceptance (C10), for any number of sets: if every set satisfies the front-end
    conditions, nothing the requested type needs is missing and every direct item of the last set is
    needed, the verdict is `.ok`.  `AllAcceptable` is defined through `procSets` of the prefixes of `ds`;
    `hneed` is quantified over the (unique) map the model computes for the last set. -/
theorem planLast_accepts {order : List Ty} {ds : List SetDef} {d : SetDef} {out : Ty}
    (hbl : BuildLast ds) (hd : ds.getLast? = some d) (horder : OrderCovers order ds)
    (hacc : AllAcceptable order ds)
    (hneed : ∀ pm sm, (procSets order ds).getLast? = some (d.id, SetRes.ok pm sm) →
      (∀ u, Reach pm out u → u ∈ d.args.getD [] ∨ (look u pm).isSome) ∧
      ∀ src e, DirectItem d (impIdsOf (procSets order ds) d) src e →
        ∃ t, Reach pm out t ∧ t ∉ d.args.getD [] ∧ look t sm = some src) :
    ∃ calls, planLast order ds out = .ok calls :=
  WireP.PipelineProofs.planLast_accepts hbl hd horder hacc hneed

/-- `planLast_accepts` for one set without imports: `AllAcceptable` becomes conditions on the set's own
    lists, and `hrest` is quantified over the result of `buildProviderMap`. -/
theorem planLast_accepts_single {order : List Ty} {d : SetDef} {out : Ty}
    (himp : d.imports = []) (horder : ∀ t ∈ ownSources d, t ∈ order)
    (hnd : (allSources d.args [] d.provs d.vals d.flds d.bnds).Nodup)
    (hbp : ∀ b ∈ d.bnds, b.provided ∈ baseSources d.args [] d.provs d.vals d.flds)
    (hrest : ∀ pm sm, buildProviderMap d.args [] d.provs d.vals d.flds d.bnds = .ok (pm, sm) →
      ¬ Cyclic (succOf pm) ∧
      (∀ u, Reach pm out u → u ∈ d.args.getD [] ∨ (look u pm).isSome) ∧
      ∀ src e, DirectItem d [] src e →
        ∃ t, Reach pm out t ∧ t ∉ d.args.getD [] ∧ look t sm = some src) :
    ∃ calls, planLast order [d] out = .ok calls := by
  have hio : ∀ done, importsOf done d = .ok [] := fun done => by rw [importsOf_eq, himp]; rfl
  apply planLast_accepts (d := d) (by intro d' hd'; cases hd') rfl
    (List.forall_mem_singleton.mpr horder)
  · intro j dj hj
    obtain rfl : j = 0 := by have := (List.getElem?_eq_some_iff.mp hj).1; simpa using this
    cases hj
    refine ⟨by rw [himp]; nofun, fun impMaps hi => ?_⟩
    rw [hio] at hi
    cases hi
    exact ⟨hnd, hbp, fun pm sm hb => (hrest pm sm hb).1⟩
  · intro pm sm hl
    obtain ⟨m, hi, hb, -⟩ := procSet_eq_ok_iff.mp (procSets_last_eq (ds := [d]) (d := d) rfl hl).2
    rw [hio] at hi
    cases hi
    rw [impIdsOf, himp]
    exact (hrest pm sm hb).2

/-- The front-end conditions are not stronger than what the model checks: they hold of every program all
    of whose sets are accepted (without chained bindings). -/
theorem allAcceptable_of_all_ok {order : List Ty} {ds : List SetDef} (horder : OrderCovers order ds)
    (hnc : ∀ d ∈ ds, NoChainedBind d.bnds)
    (hall : ∀ r ∈ procSets order ds, ∃ pm sm, r.2 = SetRes.ok pm sm) : AllAcceptable order ds := by
  intro j dj hj
  have hmem : dj ∈ ds := List.mem_of_getElem? hj
  obtain ⟨pm, sm, hok⟩ := hall _ (List.mem_of_getElem? (procSets_getElem? (order := order) hj))
  obtain ⟨m, hm, hb, hc⟩ := procSet_eq_ok_iff.mp hok
  refine ⟨fun i hi => ?_, fun m' hm' => ?_⟩
  · obtain ⟨_, _, _, e⟩ := importsOf_isOk_iff.mp ⟨m, hm⟩ i hi
    exact (List.getElem?_eq_some_iff.mp e).1
  · rw [hm] at hm'
    cases hm'
    have hacc := (PMapProofs.bpm_ok_iff (hnc dj hmem)).mp ⟨_, hb⟩
    refine ⟨hacc.1, hacc.2, fun pm' sm' hb' => ?_⟩
    rw [hb] at hb'
    cases hb'
    exact (AcyclicProofs.checkAcyclic_spec order pm
      (next_covered horder (List.take_subset j ds) hmem hm hb)).mp hc

/-- Order independence (C10): declaring the providers, values, fields and bindings of every set, imported
    sets included, in another order changes neither acceptance nor the call list, provided no set has
    chained bindings.  Each set's list of imports and the order of the sets stay as they are.  Error
    lists are not compared: they may be permuted (e.g. two `multi` diagnostics). -/
theorem planLast_perm {order : List Ty} {ds ds' : List SetDef} {out : Ty}
    (h : List.Forall₂ SetPerm ds ds') (hnc : ∀ d ∈ ds, NoChainedBind d.bnds) (calls : List Call) :
    planLast order ds out = .ok calls ↔ planLast order ds' out = .ok calls :=
  WireP.PipelineProofs.planLast_perm h hnc calls

theorem planLast_perm_last {order : List Ty} {pre : List SetDef} {d d' : SetDef} {out : Ty}
    (hp : SetPerm d d') (hnc : NoChainedBind d.bnds) (hpre : ∀ x ∈ pre, NoChainedBind x.bnds)
    (calls : List Call) :
    planLast order (pre ++ [d]) out = .ok calls ↔ planLast order (pre ++ [d']) out = .ok calls :=
  planLast_perm (forall₂_append (forall₂_refl SetPerm.refl pre) (.cons hp .nil))
    (List.forall_mem_append.mpr ⟨hpre, List.forall_mem_singleton.mpr hnc⟩) calls

/-! `exA` : a library set with a value `1` and a provider `A(1) → 2`.
`exBuild` : `wire.Build` with injector argument `0`, importing `exA`, with the binding `3 := 2`, the
struct provider `B(0, 3) → 4`, the field `5` of `4`, `C(4) → 6` and `D(5, 6) → 7`; request `7`. -/

def vA : Val := { id := 10, out := 1 }
def pA : Prov := { id := 20, args := [1], outs := [2] }
def pB : Prov := { id := 21, args := [0, 3], outs := [4], isStruct := true }
def pC : Prov := { id := 22, args := [4], outs := [6], hasErr := true }
def pD : Prov := { id := 23, args := [5, 6], outs := [7] }
def bI : Bnd := { id := 40, iface := 3, provided := 2 }
def fF : Fld := { id := 30, parent := 4, outs := [5] }
def exA : SetDef :=
  { id := 1, args := none, imports := [], provs := [pA], vals := [vA], flds := [], bnds := [] }
def exBuild : SetDef :=
  { id := 2, args := some [0], imports := [0], provs := [pB, pC, pD], vals := [], flds := [fF],
    bnds := [bI] }
def exOrder : List Ty := [0, 1, 2, 3, 4, 5, 6, 7, 8]
def exDs : List SetDef := [exA, exBuild]

instance (ds : List SetDef) : Decidable (BuildLast ds) := by unfold BuildLast; infer_instance
instance (order : List Ty) (ds : List SetDef) : Decidable (OrderCovers order ds) := by
  unfold OrderCovers; infer_instance
instance (bnds : List Bnd) : Decidable (NoChainedBind bnds) := by unfold NoChainedBind; infer_instance
deriving instance DecidableEq for SolveOut

/-- the accepted program: six calls, in dependency order, the binding `3` resolved to variable 2 -/
def exCalls : List Call :=
  [{ kind := .value, out := 1, srcId := 10 },
   { kind := .func, out := 2, srcId := 20, args := [1], ins := [1] },
   { kind := .struct, out := 4, srcId := 21, args := [0, 2], ins := [0, 3] },
   { kind := .field, out := 5, srcId := 30, args := [3] },
   { kind := .func, out := 6, srcId := 22, args := [3], ins := [4], hasErr := true },
   { kind := .func, out := 7, srcId := 23, args := [4, 5], ins := [5, 6] }]

theorem exOk : planLast exOrder exDs 7 = .ok exCalls := by decide +kernel

theorem exBuildLast : BuildLast exDs := by decide +kernel
theorem exCovers : OrderCovers exOrder exDs := by decide +kernel
theorem exNoChain : ∀ d ∈ exDs, NoChainedBind d.bnds := by decide +kernel

example : BuildLast exDs := exBuildLast
example : OrderCovers exOrder exDs := exCovers
example : exDs.getLast? = some exBuild := rfl
example : ∀ d ∈ exDs, NoChainedBind d.bnds := exNoChain
example : DistinctIds exBuild := ⟨by decide, by decide, by decide, by decide⟩
example : impIdsOf (procSets exOrder exDs) exBuild = [1] := by rfl

example : ∃ pm sm impMaps, (procSets exOrder exDs).getLast? = some (2, SetRes.ok pm sm) ∧
    importsOf (procSets exOrder exDs.dropLast) exBuild = .ok impMaps ∧
    buildProviderMap exBuild.args impMaps exBuild.provs exBuild.vals exBuild.flds exBuild.bnds
      = .ok (pm, sm) ∧ ¬ Cyclic (succOf pm) ∧
    PlanSpec exBuild (impIdsOf (procSets exOrder exDs) exBuild) pm sm [0] 7 exCalls :=
  planLast_ok_spec exBuildLast rfl exCovers exOk

/-- Through `allAcceptable_of_all_ok`, the hypothesis `AllAcceptable` of `planLast_accepts`. -/
theorem exAllOk : ∀ r ∈ procSets exOrder exDs, ∃ pm sm, r.2 = SetRes.ok pm sm :=
  WireP.PipelineProofs.all_ok_of_all (by rfl)

example : AllAcceptable exOrder exDs :=
  allAcceptable_of_all_ok exCovers exNoChain exAllOk

example : ∃ calls, planLast exOrder exDs 7 = .ok calls := by
  refine planLast_accepts exBuildLast rfl exCovers (allAcceptable_of_all_ok exCovers exNoChain exAllOk) ?_
  intro pm sm hl
  obtain ⟨pm', sm', _, hl', _, _, _, hs⟩ :=
    planLast_ok_spec exBuildLast rfl exCovers exOk
  rw [hl] at hl'
  cases hl'
  exact ⟨hs.no_missing, hs.all_used⟩

/-- `exBuild` with its providers rotated (the lists of `exA` have one element each). -/
def exBuild' : SetDef := { exBuild with provs := [pD, pB, pC] }

example : List.Forall₂ SetPerm exDs [exA, exBuild'] :=
  .cons (SetPerm.refl exA) (.cons ⟨rfl, rfl, rfl, by decide, .refl _, .refl _, .refl _⟩ .nil)
example : planLast exOrder [exA, exBuild'] 7 = .ok exCalls := by decide +kernel

/-- (a) a second source for the imported type `2` -/
example : planLast exOrder [exA, { exBuild with vals := [{ id := 11, out := 2 }] }] 7
    = .errs [Err.multi 2] := by decide +kernel
/-- (a) a duplicate inside the imported set -/
example : planLast exOrder [{ exA with vals := [vA, { id := 11, out := 1 }] }, exBuild] 7
    = .errs [Err.importFailed 1] := by decide +kernel
/-- (b) `B` additionally needs `5`, the field of its own result -/
example : planLast exOrder [exA, { exBuild with provs := [{ pB with args := [0, 3, 5] }, pC, pD] }] 7
    = .errs [Err.cycle [4, 5, 4]] := by decide +kernel
/-- (c) without the binding, `3` has no source -/
example : planLast exOrder [exA, { exBuild with bnds := [] }] 7
    = .errs [Err.noProvider 3 [4, 5, 7]] := by decide +kernel
/-- (d) one more value that nothing needs -/
example : planLast exOrder [exA, { exBuild with vals := [{ id := 11, out := 8 }] }] 7
    = .errs [Err.unusedVal 11] := by decide +kernel
/-- (d) an imported set none of whose types is needed -/
example : planLast exOrder [exA, { exBuild with provs := [{ pB with args := [0] }], flds := [], bnds := [] }] 4
    = .errs [Err.unusedSet 1] := by decide +kernel

/-! The hypotheses of the rejection theorems are satisfiable. -/

/-- The maps of the last set, if accepted, as concrete terms. -/
def lastMaps (order : List Ty) (ds : List SetDef) : PMap × SMap :=
  match (procSets order ds).getLast? with
  | some (_, .ok pm sm) => (pm, sm)
  | _ => ([], [])

def exDsMiss : List SetDef := [exA, { exBuild with bnds := [] }]
def exDsUnused : List SetDef := [exA, { exBuild with vals := [{ id := 11, out := 8 }] }]
def exBuildCyc : SetDef := { exBuild with provs := [{ pB with args := [0, 3, 5] }, pC, pD] }
def exBuildDup : SetDef := { exBuild with vals := [{ id := 11, out := 2 }] }
def exImpMaps : List (Nat × PMap) := [(1, (lastMaps exOrder [exA]).1)]

/-- (c) `3` is needed (`7 → 5 → 4 → 3`), not given and has no source -/
example : ∃ es, planLast exOrder exDsMiss 7 = .errs es ∧ (∃ up, Err.noProvider 3 up ∈ es) ∧
    ∀ e ∈ es, ∃ t' up', e = Err.noProvider t' up' ∧ look t' (lastMaps exOrder exDsMiss).1 = none ∧
      t' ∉ [0] ∧ Reach (lastMaps exOrder exDsMiss).1 7 t' :=
  planLast_rejects_missing (d := { exBuild with bnds := [] }) (by decide) rfl (by decide)
    (rfl : _ = some (2, SetRes.ok (lastMaps exOrder exDsMiss).1 (lastMaps exOrder exDsMiss).2))
    (.step (b := 5) ⟨_, rfl, Or.inr ⟨rfl, by decide⟩⟩ <|
      .step (b := 4) ⟨_, rfl, Or.inr ⟨rfl, by decide⟩⟩ <|
        .step (b := 3) ⟨_, rfl, Or.inr ⟨rfl, by decide⟩⟩ (.refl 3))
    (by rfl) (by decide)

/-- (d) the value `11` provides `8` only, which the request does not need -/
example : ∃ es, planLast exOrder exDsUnused 7 = .errs es ∧ es ≠ [] ∧
    ((∀ u, Reach (lastMaps exOrder exDsUnused).1 7 u →
        u ∈ [0] ∨ (look u (lastMaps exOrder exDsUnused).1).isSome) → Err.unusedVal 11 ∈ es) :=
  planLast_rejects_unused (d := { exBuild with vals := [{ id := 11, out := 8 }] }) (by decide) rfl
    (by decide)
    (rfl : _ = some (2, SetRes.ok (lastMaps exOrder exDsUnused).1 (lastMaps exOrder exDsUnused).2))
    (.val { id := 11, out := 8 } (by decide))
    (by
      rintro ⟨t, hr, -, hl⟩
      have hS := WireP.PipelineProofs.reach_subset [7, 5, 6, 4, 0, 3, 2, 1] (by decide) (by decide) t hr
      have : ∀ t ∈ [7, 5, 6, 4, 0, 3, 2, 1],
          look t (lastMaps exOrder exDsUnused).2 ≠ some (SrcId.val 11) := by decide
      exact this t hS hl)

/-- (b) the map of the last set is built and has the cycle `4 → 5 → 4` -/
example : ∃ es, planLast exOrder [exA, exBuildCyc] 7 = .errs es ∧ ∃ tr, Err.cycle tr ∈ es :=
  have ⟨es, h1, h2, _⟩ := planLast_rejects_cycle (ds := [exA, exBuildCyc]) (d := exBuildCyc) (impMaps := exImpMaps)
    (pm := (buildProviderMap exBuildCyc.args exImpMaps exBuildCyc.provs exBuildCyc.vals
      exBuildCyc.flds exBuildCyc.bnds).toOption.get!.1)
    (sm := (buildProviderMap exBuildCyc.args exImpMaps exBuildCyc.provs exBuildCyc.vals
      exBuildCyc.flds exBuildCyc.bnds).toOption.get!.2)
    7 rfl (by decide) rfl rfl
    ⟨4, .cons (b := 5) (by decide) (.single (by decide))⟩
  ⟨es, h1, h2⟩

/-- (a) `2` has two sources (imported and value `11`) -/
example : ∃ es t, planLast exOrder [exA, exBuildDup] 7 = .errs es ∧ Err.multi t ∈ es :=
  planLast_rejects_dup_named (ds := [exA, exBuildDup]) (d := exBuildDup) (impMaps := exImpMaps)
    7 rfl rfl (by decide) (by decide)

/-- (a) the imported set (position 0) has a duplicate of its own -/
example : ∃ es, planLast exOrder [{ exA with vals := [vA, { id := 11, out := 1 }] }, exBuild] 7 = .errs es ∧
    Err.importFailed 1 ∈ es :=
  planLast_rejects_dup_import (dj := { exA with vals := [vA, { id := 11, out := 1 }] }) (j := 0)
    (impMaps := []) 7 rfl rfl (by decide) rfl (by decide)

end WireP.Pipeline
