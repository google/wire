import WireP.Lemmas.TableProofs
import WireP.Lemmas.ValueProofs
import WireP.Lemmas.AccessProofs
/-! # C13 — `wire.Value` expressions never call a function or receive from a channel

Model: `WireV.whitelistOk`, the `ast.Inspect` walk of `processValue`, parametrised by the facts `WireV.WL` extracted
from the source (the `CallExpr` rule, the node kinds accepted outright, whether `<-` is rejected, whether `default:`
rejects).  The table theorems `current_*` are closed by `decide` over the regenerated `WireV.Generated` and break when
the source changes. -/
namespace WireP.C13
open WireV

/-- An accepted expression evaluates no call other than conversions and no channel receive, anywhere in the tree.
    `evaluatesCall` sees only `.call` and `.unary`: this presumes that a go/ast `CallExpr` / `UnaryExpr` is always
    encoded as such, never as `.node "CallExpr" …`.  For the current whitelist `current_no_call_kinds` removes the
    presumption. -/
theorem whitelist_sound (w : WL) (e : VExpr) :
    w.rule = "isType" → w.arrowRejected = true → whitelistOk w e = true → evaluatesCall e = false :=
  WireP.ValueProofs.whitelist_sound w e

theorem whitelist_no_funclit (w : WL) (e : VExpr) :
    w.defaultRejects = true → "FuncLit" ∉ w.good → whitelistOk w e = true → hasFuncLit e = false :=
  WireP.ValueProofs.whitelist_no_funclit w e

/-- defect D15 (fixed in the source): under the rule `"signature"` (reject only callees whose type is a
    `*types.Signature`, and builtins) the call of a value of a named function type is accepted -/
theorem whitelist_unsound_signature_rule :
    ∃ e, whitelistOk { currentWL with rule := "signature" } e = true ∧ evaluatesCall e = true :=
  ⟨.call .namedFunc (.node "Ident" []) [], by decide⟩

theorem current_rule : Generated.valueCallRule = "isType" := by decide
theorem current_arrow : Generated.valueUnaryArrowRejected = true := by decide
theorem current_default : Generated.valueDefaultRejects = true := by decide
theorem current_no_funclit : "FuncLit" ∉ Generated.valueGood := by decide +kernel
/-- with `current_default`: a call or receive cannot get past `processValueOk` by being encoded as a plain node
    instead of `.call` / `.unary` -/
theorem current_no_call_kinds : "CallExpr" ∉ Generated.valueGood ∧ "UnaryExpr" ∉ Generated.valueGood := by decide +kernel

/-- for `processValue` of the current source -/
theorem processValue_sound (e : VExpr) :
    processValueOk e = true → evaluatesCall e = false ∧ hasFuncLit e = false := fun h =>
  ⟨whitelist_sound currentWL e current_rule current_arrow h,
   whitelist_no_funclit currentWL e current_default current_no_funclit h⟩

/-- accepted: `T(x.f) + *p`, with a conversion and a non-arrow unary -/
example : processValueOk
    (.node "BinaryExpr" [.call .typeExpr (.node "Ident" []) [.node "SelectorExpr" [.node "Ident" [], .node "Ident" []]],
                         .unary false (.node "StarExpr" [.node "Ident" []])]) = true := by decide +kernel

/-- rejected: a receive, a function call, a method value call, a builtin, a function literal -/
example : processValueOk (.unary true (.node "Ident" [])) = false := by decide +kernel
example : processValueOk (.call .signature (.node "Ident" []) []) = false := by decide +kernel
example : processValueOk (.call .namedFunc (.node "Ident" []) []) = false := by decide +kernel
example : processValueOk (.call .builtin (.node "Ident" []) [.node "Ident" []]) = false := by decide +kernel
example : processValueOk (.node "FuncLit" [.node "FuncType" [], .node "BlockStmt" []]) = false := by decide +kernel
/-- rejection is deep: a call buried in a composite literal inside a conversion -/
example : processValueOk (.call .typeExpr (.node "Ident" [])
    [.node "CompositeLit" [.node "Ident" [], .node "KeyValueExpr" [.node "Ident" [], .call .signature (.node "Ident" []) []]]]) = false := by
  decide +kernel
/-- `whitelist_sound` needs `arrowRejected`: without the arrow test a receive is accepted -/
example : whitelistOk { currentWL with arrowRejected := false } (.unary true (.node "Ident" [])) = true
    ∧ evaluatesCall (.unary true (.node "Ident" [])) = true := by decide +kernel
/-- `whitelist_no_funclit` needs `defaultRejects` -/
example : whitelistOk { currentWL with defaultRejects := false } (.node "FuncLit" []) = true
    ∧ hasFuncLit (.node "FuncLit" []) = true := by decide +kernel

/-- The written expression reaches the generated file unabridged: every node kind in `exprKinds` has a case in
    `copyAST`, and that case carries over every child, child list and value field (operator, literal text, the
    `Slice3` flag and `Max` of a full slice expression, `Ellipsis`, …).  `exprKinds` is the hand-written list of
    expression-level kinds in `WireV/Tables.lean`; it is not derived from the reflected `Generated.astNodes`. -/
theorem value_copy_complete :
    (exprKinds.filter (fun k => !(Generated.copyCases.map (·.1)).contains k)) = [] ∧
    (copyMissing.filter (fun kf => exprKinds.contains kf.1)) = [] :=
  ⟨by decide +kernel, by rw [WireP.Tables.copyMissing_nil]; rfl⟩

example : ("SliceExpr", "child") ∈ ((Generated.astNodes.find? (fun c => c.1 == "SliceExpr")).map
    (fun c => c.2.filter (·.1 == "Max") |>.map (fun f => (c.1, f.2)))).getD [] := by decide +kernel

/-! Expressions that mention what the injector's package cannot access (`accessibleFrom`, `WireV/Access.lean`). -/
section access
open WireP.Access

/-- accepted iff every node can be written in the target package: no unexported identifier or positionally set
    unexported field of another package, nothing of a package it may not import (internal-package rule), nothing
    function-local -/
theorem accessible_iff (want : Nat) (nodes : List ANode) :
    accessibleFrom want nodes = none ↔ ∀ n ∈ nodes, NodeOk want n := by
  simp only [accessibleFrom, List.findSome?_eq_none_iff, nodeErr_none_iff]

theorem accessible_no_foreign_unexported {want : Nat} {nodes : List ANode} (h : accessibleFrom want nodes = none)
    (i : AIdent) (hi : .ident i ∈ nodes) (hs : i.scope ≠ .pkgName ∧ i.scope ≠ .noPkg) (hp : i.pkg ≠ want) :
    i.exported = true ∧ i.importable = true ∧ i.scope ≠ .local := by
  have := (accessible_iff want nodes).1 h _ hi
  rcases this with h1 | h1 | ⟨hl, h2 | h2⟩
  · exact absurd h1 hs.1
  · exact absurd h1 hs.2
  · exact absurd h2 hp
  · exact ⟨h2.1, h2.2, hl⟩

theorem accessible_no_foreign_positional {want : Nat} {nodes : List ANode} (h : accessibleFrom want nodes = none)
    (fs : List AField) (hl : .lit fs ∈ nodes) (f : AField) (hf : f ∈ fs) (hp : f.pkg ≠ want) : f.exported = true := by
  rcases (accessible_iff want nodes).1 h _ hl f hf with he | he
  · exact he
  · exact absurd he hp

theorem accessible_reports_first (want : Nat) (nodes : List ANode) (e : AErr) (h : accessibleFrom want nodes = some e) :
    ∃ pre n post, nodes = pre ++ n :: post ∧ (∀ m ∈ pre, NodeOk want m) ∧ nodeErr want n = some e :=
  have ⟨pre, n, post, hn, he, hpre⟩ := List.findSome?_eq_some_iff.mp h
  ⟨pre, n, post, hn, fun m hm => (nodeErr_none_iff want m).mp (hpre m hm), he⟩

/-! `lib.Exp + lib.T{X: 1}.X` is fine from package 0; `unexp`, a positional `T{1, 2}` of package 1, a local and an
identifier of an internal package are not -/
example : accessibleFrom 0 [.ident ⟨1, false, .pkgName, 9, true⟩, .ident ⟨2, true, .pkgScope, 1, true⟩, .lit [],
    .ident ⟨3, true, .pkgScope, 1, true⟩, .ident ⟨4, true, .member, 1, true⟩] = none := by decide +kernel
example : accessibleFrom 0 [.ident ⟨2, true, .pkgScope, 1, true⟩, .ident ⟨5, false, .pkgScope, 1, true⟩] = some (.unexported 5) := by decide +kernel
example : accessibleFrom 0 [.lit [⟨4, true, 1⟩, ⟨6, false, 1⟩]] = some (.setsUnexported 6) := by decide +kernel
example : accessibleFrom 1 [.lit [⟨4, true, 1⟩, ⟨6, false, 1⟩]] = none := by decide +kernel
example : accessibleFrom 0 [.ident ⟨7, false, .local, 0, true⟩] = some (.notPkgScope 7) := by decide +kernel
example : accessibleFrom 0 [.ident ⟨8, true, .pkgScope, 2, false⟩] = some (.internal 8) := by decide +kernel

end access

end WireP.C13
