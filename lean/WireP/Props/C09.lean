import WireP.Lemmas.SigProofs
import WireP.Lemmas.EmitProofs
/-! # C09 — provider and injector signature rules

Model: `WireV.funcOutput` (the arity switch of parse.go:funcOutput over result kinds abstracted to {identical to
`error`, identical to `func()`, neither}), `WireV.dupParam` (the quadratic duplicate scan of processFuncProvider /
processStructProvider), `WireV.sigErrors` (inject's test that the injector declares what the planned calls need).
Tie: exhaustive unit-tier stream, every result list of length 0..4 over 8 concrete varieties (value, error, func(),
named func type, alias of func(), other func type, named error type, basic) through the real `funcOutput` and
`processFuncProvider`; every parameter list of length <= 4 over three types. -/
namespace WireP.C09
open WireV

/-- exactly the four legal shapes are accepted, with the flags they imply -/
theorem funcOutput_spec (rs : List RKind) (c e : Bool) :
    funcOutput rs = .ok ⟨c, e⟩ ↔
      (∃ r0, rs = [r0] ∧ c = false ∧ e = false) ∨
      (∃ r0, rs = [r0, .error] ∧ c = false ∧ e = true) ∨
      (∃ r0, rs = [r0, .cleanup] ∧ c = true ∧ e = false) ∨
      (∃ r0, rs = [r0, .cleanup, .error] ∧ c = true ∧ e = true) := by
  refine ⟨fun h => ?_, by
    rintro (⟨r0, rfl, rfl, rfl⟩ | ⟨r0, rfl, rfl, rfl⟩ | ⟨r0, rfl, rfl, rfl⟩ | ⟨r0, rfl, rfl, rfl⟩) <;> rfl⟩
  match rs, h with
  | [r0], h => cases h; exact .inl ⟨r0, rfl, rfl, rfl⟩
  | [r0, .error], h => cases h; exact .inr (.inl ⟨r0, rfl, rfl, rfl⟩)
  | [r0, .cleanup], h => cases h; exact .inr (.inr (.inl ⟨r0, rfl, rfl, rfl⟩))
  | [r0, .cleanup, .error], h => cases h; exact .inr (.inr (.inr ⟨r0, rfl, rfl, rfl⟩))
  | [], h | [_, .other], h | [_, .other, _], h | [_, .error, _], h | [_, .cleanup, .other], h
  | [_, .cleanup, .cleanup], h | _ :: _ :: _ :: _ :: _, h => cases h

theorem funcOutput_arity (rs : List RKind) :
    (rs = [] → funcOutput rs = .error .noReturn) ∧ (4 ≤ rs.length → funcOutput rs = .error .tooMany) := by
  constructor
  · intro h; subst h; rfl
  · intro h
    match rs, h with
    | _ :: _ :: _ :: _ :: _, _ => rfl

/-- named function types, other function types and named error types are `other` -/
theorem funcOutput_rejects (r0 r1 r2 : RKind) :
    (r1 = .other → funcOutput [r0, r1] = .error .second) ∧
    (r1 ≠ .cleanup → funcOutput [r0, r1, r2] = .error .second) ∧
    (r1 = .cleanup → r2 ≠ .error → funcOutput [r0, r1, r2] = .error .third) := by
  refine ⟨?_, ?_, ?_⟩
  · intro h; subst h; rfl
  · intro h; cases r1 <;> simp_all [funcOutput]
  · intro h1 h2; subst h1; cases r2 <;> simp_all [funcOutput]

/-- two parameters, or two selected fields, of identical type are rejected, and only then -/
theorem dupParam_spec (ts : List Ty) : dupParam ts = none ↔ ts.Nodup :=
  WireP.Sig.dupParam_none_iff ts

/-- Emission is refused iff some planned call returns a cleanup or an error that the injector does not declare.  An
    entry `(k, b)` of `sigErrors` complains about call `k`: `b = true` for an undeclared cleanup, `b = false` for an
    undeclared error. -/
theorem needs_sig (sc se : Bool) (calls : List Call) :
    sigErrors sc se calls = [] ↔ ∀ c ∈ calls, (c.hasCleanup = true → sc = true) ∧ (c.hasErr = true → se = true) :=
  WireP.EmitProofs.sigErrors_eq_nil_iff sc se calls

theorem declares_more_ok (calls : List Call) : sigErrors true true calls = [] := by
  rw [needs_sig]; intro c _; simp

example : funcOutput [.other, .cleanup, .error] = .ok ⟨true, true⟩ := by rfl
example : funcOutput [.error] = .ok ⟨false, false⟩ := by rfl
example : funcOutput [.other, .other] = .error .second := by rfl
example : dupParam [3, 5, 3] = some 3 := by decide +kernel
example : sigErrors false true [{ kind := .func, out := 1, srcId := 1, hasCleanup := true }] = [(0, true)] := by decide +kernel

end WireP.C09
