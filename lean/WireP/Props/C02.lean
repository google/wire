import WireP.Lemmas.SolveUsed
import WireP.Lemmas.SolveLive
import WireP.Lemmas.SolveExample
/-! # C02 — the planner emits a correct, complete, minimal, well-ordered call list

The model is `WireV.svStep` / `svIter` / `solve`, a transcription of the stack machine in
`internal/wire/analyze.go:solve`.

Extra hypotheses, which `H` does not imply and the suffix `_partial` marks: statements about the
*value* held by a variable need `GivenSelf pm given` (a given type is not the key of an interface
binding; counterexample `pmA`, below); the completeness statements of C06 / C08 / C11 need the
stronger `GivenLeaf pm given` (a given type has no dependencies in the map).  Both follow from
`GivenArgs`, which is what `buildProviderMap args …` guarantees for `given = args`
(`givenArgs_suffices`). -/
namespace WireP.C02
open WireV WireP.Solve

/-- Termination within the fuel: the stack is empty when `solve` inspects the machine.  Of `H` this
    uses `Acyclic pm` and `ArgsGiven pm given` only. -/
theorem solve_terminates {pm : PMap} {sm : SMap} {given : List Ty} {out : Ty} (hH : H pm given) :
    (final pm sm given out).stk = [] :=
  WireP.Solve.solve_terminates hH

theorem solve_not_stuck {pm : PMap} {sm : SMap} {d : SetDef} {impIds : List Nat}
    {given : List Ty} {out : Ty} (hH : H pm given) :
    solve pm sm d impIds given out ≠ .stuck :=
  fun h => WireP.Solve.solve_stuck_iff.mp h (WireP.Solve.solve_terminates hH)

/-- `svFuel pm = 2 + Σ_keys (1 + degree)` is sufficient with one unit to spare. -/
theorem solve_steps {pm : PMap} {sm : SMap} {given : List Ty} {out : Ty} (hH : H pm given) :
    ∃ n, n + 1 ≤ svFuel pm ∧ (svIter pm sm given.length n (svInit given out)).stk = [] := by
  obtain ⟨n, s, hn, hle, hs, -⟩ := halts sm hH.acyclic hH.argsGiven out
  exact ⟨n, hle, by rw [svIter_eq, Iter.run_eq_of_runO hn]; exact hs⟩

/-- Arguments are sound and defined before use: a call has one argument per dependency, and
    argument `j` is a variable defined earlier that holds the value of the one source of dependency
    `j`'s type, bindings resolved to the concrete type.  For a field call the model leaves `ins`
    empty (`mkCall_ins_fld`), hence the premise of the clause on `c.ins`. -/
theorem solve_args_sound_partial {pm : PMap} {sm : SMap} {given : List Ty} {out : Ty}
    (hH : H pm given) (hg : GivenSelf pm given) :
    ∀ (p : Nat) c, (final pm sm given out).calls[p]? = some c →
      ∃ pt, look c.out pm = some pt ∧ pt.t = c.out ∧
        ((∀ f, pt.src ≠ .fld f) → c.ins = depsOf pt.src) ∧
        c.args.length = (depsOf pt.src).length ∧
        ∀ (j : Nat) a d, c.args[j]? = some a → (depsOf pt.src)[j]? = some d →
          a < given.length + p ∧
          produced given (final pm sm given out).calls a = some (resolveTy pm d) := by
  intro p c hpc
  obtain ⟨pt, hlp, hb, _, hmk, hlen, hargs⟩ :=
    solve_call_sound hH.concClosed hH.givenNodup hg p c hpc
  exact ⟨pt, hlp, hb, mkCall_ins hmk, hlen, hargs⟩

/-- Kind, source identity and flags of a call are those of the one source of its output type, which
    is never an injector argument. -/
theorem solve_call_payload {pm : PMap} {sm : SMap} {given : List Ty} {out : Ty} (hH : H pm given) :
    ∀ c ∈ (final pm sm given out).calls, ∃ pt, look c.out pm = some pt ∧ pt.t = c.out ∧
      (∀ i, pt.src ≠ .arg i) ∧ mkCall c.out pt.src c.args = some c := by
  intro c hc
  obtain ⟨pt, hlp, hb, hmk, _⟩ := (hH.inv sm out).callPay c hc
  exact ⟨pt, hlp, hb, mkCall_not_arg hmk, hmk⟩

/-- No type is built twice, and no given type at all. -/
theorem solve_outs_nodup {pm : PMap} {sm : SMap} {given : List Ty} {out : Ty} (hH : H pm given) :
    ((final pm sm given out).calls.map (·.out)).Nodup ∧
    ∀ c ∈ (final pm sm given out).calls, c.out ∉ given :=
  WireP.Solve.solve_outs_nodup hH.concClosed hH.givenNodup

/-- Minimality: only what the requested type transitively needs is built. -/
theorem solve_only_needed {pm : PMap} {sm : SMap} {given : List Ty} {out : Ty} (hH : H pm given) :
    ∀ c ∈ (final pm sm given out).calls, Reach pm out c.out :=
  WireP.Solve.solve_only_needed hH.concClosed hH.givenNodup

/-- Without errors the requested type is indexed with a variable that holds it (resolved through a
    binding). -/
theorem solve_result_partial {pm : PMap} {sm : SMap} {given : List Ty} {out : Ty}
    (hH : H pm given) (hg : GivenSelf pm given) (he : (final pm sm given out).errs = []) :
    ∃ n, look out (final pm sm given out).index = some (some n) ∧
      produced given (final pm sm given out).calls n = some (resolveTy pm out) :=
  WireP.Solve.solve_result_partial hH hg he

/-- what `injectPass` returns: the output of the last call is the requested type -/
theorem solve_result_last {pm : PMap} {sm : SMap} {given : List Ty} {out : Ty} (hH : H pm given)
    (hc : (final pm sm given out).calls ≠ []) (he : (final pm sm given out).errs = []) :
    ((final pm sm given out).calls.getLast?).map (·.out) = some (resolveTy pm out) :=
  WireP.Solve.solve_result_last hH hc he

theorem givenArgs_suffices {pm : PMap} {given : List Ty} (h : GivenArgs pm given) :
    GivenLeaf pm given ∧ GivenSelf pm given :=
  ⟨h.leaf, h.leaf.self⟩

open WireP.Solve.Ex

example : H pmEx [0] := hEx
example : GivenSelf pmEx [0] := leafEx.self
example : GivenArgs pmEx [0] := by intro g hg; simp at hg; subst hg; exact ⟨0, rfl⟩
example : svFuel pmEx = 18 := by decide +kernel
example : (final pmEx smEx [0] 7).stk = [] ∧ (final pmEx smEx [0] 7).errs = [] := by
  rw [finalEx]; decide
example : (final pmEx smEx [0] 7).calls.map (·.out) = [1, 2, 4, 5, 6, 7] := by rw [finalEx]; rfl
example : (final pmEx smEx [0] 7).calls.map (·.args) = [[], [0, 1], [2], [2], [3, 4], [5]] := by
  rw [finalEx]; rfl
example : (final pmEx smEx [0] 7).calls.map (·.kind) =
    [.value, .func, .func, .func, .struct, .field] := by rw [finalEx]; rfl
example : look 7 (final pmEx smEx [0] 7).index = some (some 6) ∧
    produced [0] (final pmEx smEx [0] 7).calls 6 = some 7 := by rw [finalEx]; decide
example : solve pmEx smEx dEx [] [0] 7 = .ok (final pmEx smEx [0] 7).calls := by
  rw [solve_eq, finalEx]; rfl

/-- `c.ins = depsOf pt.src` fails for a field call: `mkCall` leaves `ins` empty -/
example : ((final pmEx smEx [0] 7).calls[5]?).map (fun c => (c.out, c.kind, c.ins)) =
    some (7, .field, []) ∧ (look 7 pmEx).map (fun pt => depsOf pt.src) = some [6] := by
  rw [finalEx]; decide

/-- `GivenSelf` cannot be dropped from `solve_args_sound_partial`: `3` is given and the key of a
    binding `3 ↦ 2`; the call for `4` receives variable `0`, which holds `3` and not
    `resolveTy pmA 3 = 2`. -/
example : H pmA [3] ∧
    (final pmA [] [3] 4).calls.map (fun c => (c.out, c.args)) = [(4, [0])] ∧
    produced [3] (final pmA [] [3] 4).calls 0 = some 3 ∧ resolveTy pmA 3 = 2 :=
  ⟨hA, by decide, by decide, by decide⟩

/-- … nor from `solve_result_partial` -/
example : H pmA [3] ∧ (final pmA [] [3] 3).errs = [] ∧
    look 3 (final pmA [] [3] 3).index = some (some 0) ∧
    produced [3] (final pmA [] [3] 3).calls 0 = some 3 ∧ resolveTy pmA 3 = 2 :=
  ⟨hA, by decide, by decide, by decide, by decide⟩

end WireP.C02
