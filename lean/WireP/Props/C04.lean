import WireP.Props.C03
import WireP.Lemmas.SolveFinal
/-! # C04 — the aggregated cleanup releases everything once, in reverse acquisition order

Same model as C03.  Tie: the closure body parsed from every generated injector and the run-time trace of invoking the
returned function. -/
namespace WireP.C04
open WireV WireP.EmitProofs

/-- No provider fails: every provider function is called, in plan order, no cleanup runs before the injector returns,
    and it returns a closure iff it declares a cleanup result; the closure holds the cleanups acquired, in reverse
    order. -/
theorem ok_trace_and_closure (fails : Nat → Bool) (sc se : Bool) (cs : List Call) (hok : NoFail fails 0 cs) :
    runInj fails sc se cs =
      ((fnPos 0 cs).map Ev.call, Outcome.ok (if sc then some (clPos 0 cs).reverse else none)) := by
  have := exec_emitFrom_append (sc := sc) (closure := (emitInj sc se cs).closure) 0 [] cs [] hok
  simpa [runInj, emitInj, emitFrom, exec, emitFrom_acq] using this

theorem ok_cleanup_trace (fails : Nat → Bool) (se : Bool) (cs : List Call) (hok : NoFail fails 0 cs) :
    runClosure (runInj fails true se cs).2 = (clPos 0 cs).reverse.map Ev.cleanup := by
  rw [ok_trace_and_closure fails true se cs hok]; rfl

/-- non-nil even when no provider returns a cleanup (a no-op function) -/
theorem ok_cleanup_nonnil (fails : Nat → Bool) (se : Bool) (cs : List Call) (hok : NoFail fails 0 cs) :
    ∃ cl, (runInj fails true se cs).2 = Outcome.ok (some cl) := by
  rw [ok_trace_and_closure fails true se cs hok]; exact ⟨_, rfl⟩

theorem ok_no_early_cleanup (fails : Nat → Bool) (sc se : Bool) (cs : List Call) (hok : NoFail fails 0 cs) :
    ∀ p, Ev.cleanup p ∉ (runInj fails sc se cs).1 := by
  rw [ok_trace_and_closure fails sc se cs hok]; simp

/-- About positions only.  That a provider's cleanup runs before the cleanup of anything it was built from is
    `cleanup_before_what_it_was_built_from`, which adds the planner's fact that every argument of a call is defined at
    a smaller position. -/
theorem cleanup_respects_deps (cs : List Call) : ((clPos 0 cs).reverse).Pairwise (· > ·) :=
  WireP.C03.fail_each_once_reverse cs

theorem closure_members (cs : List Call) (p : Nat) :
    p ∈ (clPos 0 cs).reverse ↔ ∃ c, cs[p]? = some c ∧ isFn c = true ∧ c.hasCleanup = true := by
  rw [List.mem_reverse, mem_clPos]
  simp

-- a struct step between two cleanup-returning providers
example : runInj (fun _ => false) true false
    [{ kind := .func, out := 10, srcId := 1, hasCleanup := true },
     { kind := .struct, out := 11, srcId := 2, args := [0] },
     { kind := .func, out := 12, srcId := 3, args := [1], hasCleanup := true }]
    = ([Ev.call 0, Ev.call 2], Outcome.ok (some [2, 0])) := by decide +kernel
example : runInj (fun _ => false) true false [{ kind := .value, out := 10, srcId := 1 }]
    = ([], Outcome.ok (some [])) := by decide +kernel

/-- End to end, planner + emission.  The property speaks of "anything it was built from": step `q` takes the local
    defined by step `p` (variable number `ng + p`) as an argument, directly or through further steps; struct literals,
    field selections and value references, which have no cleanup of their own, pass the dependency on. -/
inductive BuiltFrom (ng : Nat) (cs : List Call) : Nat → Nat → Prop
  | direct {q p : Nat} {c : Call} : cs[q]? = some c → ng + p ∈ c.args → BuiltFrom ng cs q p
  | trans {q m p : Nat} : BuiltFrom ng cs q m → BuiltFrom ng cs m p → BuiltFrom ng cs q p

theorem builtFrom_earlier {pm : PMap} {sm : SMap} {given : List Ty} {out : Ty}
    (hH : WireP.Solve.H pm given) (hg : WireP.Solve.GivenSelf pm given) {q p : Nat}
    (h : BuiltFrom given.length (WireP.Solve.final pm sm given out).calls q p) : p < q := by
  induction h with
  | @direct q p c hq ha =>
    obtain ⟨pt, _, _, _, _, hlen, hargs⟩ :=
      WireP.Solve.solve_call_sound (sm := sm) (out := out) hH.concClosed hH.givenNodup hg q c hq
    obtain ⟨j, hj, hje⟩ := List.getElem_of_mem ha
    have hj' : j < (depsOf pt.src).length := hlen ▸ hj
    have h1 := hargs j (given.length + p) ((depsOf pt.src)[j]) (by rw [List.getElem?_eq_getElem hj, hje])
      (List.getElem?_eq_getElem hj')
    omega
  | trans _ _ ih1 ih2 => omega

theorem sublist_pair_of_pairwise_gt {l : List Nat} (hl : l.Pairwise (· > ·)) {q p : Nat}
    (hq : q ∈ l) (hp : p ∈ l) (hpq : p < q) : List.Sublist [q, p] l := by
  obtain ⟨a, b, rfl⟩ := List.append_of_mem hq
  rw [List.pairwise_append, List.pairwise_cons] at hl
  have hpb : p ∈ b := by
    rcases List.mem_append.mp hp with h | h
    · have := hl.2.2 p h q (List.mem_cons_self ..); omega
    · rcases List.mem_cons.mp h with rfl | h
      · omega
      · exact h
  exact (List.Sublist.cons_cons q (List.singleton_sublist.mpr hpb)).trans (List.sublist_append_right a _)

theorem cleanup_pair_order (cs : List Call) {q p : Nat} (hq : q ∈ clPos 0 cs) (hp : p ∈ clPos 0 cs) (hpq : p < q) :
    List.Sublist [Ev.cleanup q, Ev.cleanup p] ((clPos 0 cs).reverse.map Ev.cleanup) := by
  simpa using (sublist_pair_of_pairwise_gt (cleanup_respects_deps cs)
    (List.mem_reverse.mpr hq) (List.mem_reverse.mpr hp) hpq).map Ev.cleanup

/-- C04 end to end.  The planned injector runs to success and the caller invokes the returned function: if `q` was
    built from `p`, the cleanup of `q` runs before the cleanup of `p`. -/
theorem cleanup_before_what_it_was_built_from {pm : PMap} {sm : SMap} {given : List Ty} {out : Ty}
    (hH : WireP.Solve.H pm given) (hg : WireP.Solve.GivenSelf pm given)
    (fails : Nat → Bool) (se : Bool)
    (hok : NoFail fails 0 (WireP.Solve.final pm sm given out).calls) {q p : Nat}
    (hb : BuiltFrom given.length (WireP.Solve.final pm sm given out).calls q p)
    (hq : q ∈ clPos 0 (WireP.Solve.final pm sm given out).calls)
    (hp : p ∈ clPos 0 (WireP.Solve.final pm sm given out).calls) :
    List.Sublist [Ev.cleanup q, Ev.cleanup p]
      (runClosure (runInj fails true se (WireP.Solve.final pm sm given out).calls).2) := by
  rw [ok_cleanup_trace fails se _ hok]
  exact cleanup_pair_order _ hq hp (builtFrom_earlier hH hg hb)

/-- under every fault plan: after a failure the caller has no closure to invoke -/
theorem closure_trace_nodup (fails : Nat → Bool) (se : Bool) (cs : List Call) :
    (runClosure (runInj fails true se cs).2).Nodup := by
  rcases exec_outcome fails (emitInj true se cs).closure (emitInj true se cs).steps with h | ⟨p, b, h⟩ <;>
    rw [runInj, h]
  · simp only [emitInj, emitFrom_acq, if_true, runClosure, List.nil_append]
    rw [List.Nodup, List.pairwise_map]
    exact (cleanup_respects_deps cs).imp (fun hab h => by injection h; omega)
  · exact .nil

/-- does not use `hok` (`closure_trace_nodup`) -/
theorem cleanup_trace_nodup (fails : Nat → Bool) (se : Bool) (cs : List Call) (hok : NoFail fails 0 cs) :
    (runClosure (runInj fails true se cs).2).Nodup :=
  closure_trace_nodup fails se cs

/-- The same on the failure path (C03's unwinding): `c` is the first provider to fail, and the injector runs the
    cleanups before returning the error. -/
theorem unwind_before_what_it_was_built_from {pm : PMap} {sm : SMap} {given : List Ty} {out : Ty}
    (hH : WireP.Solve.H pm given) (hg : WireP.Solve.GivenSelf pm given)
    (fails : Nat → Bool) (sc se : Bool) (pre post : List Call) (c : Call)
    (hcs : (WireP.Solve.final pm sm given out).calls = pre ++ c :: post)
    (hck : isFn c = true) (hce : c.hasErr = true) (hcf : fails pre.length = true)
    (hpre : NoFail fails 0 pre) {q p : Nat}
    (hb : BuiltFrom given.length (WireP.Solve.final pm sm given out).calls q p)
    (hq : q ∈ clPos 0 pre) (hp : p ∈ clPos 0 pre) :
    List.Sublist [Ev.cleanup q, Ev.cleanup p]
      (runInj fails sc se (WireP.Solve.final pm sm given out).calls).1 := by
  have hlt := builtFrom_earlier hH hg hb
  rw [hcs, WireP.C03.fail_trace_and_result fails sc se pre post c hck hce hcf hpre]
  exact (cleanup_pair_order pre hq hp hlt).trans (List.sublist_append_right _ _)

-- step 2 is built from step 0 through the struct step 1.  The call list is written by hand, not a
-- `WireP.Solve.final …`: the other hypotheses of the two end-to-end theorems are not exercised.
example : BuiltFrom 0
    [{ kind := .func, out := 10, srcId := 1, hasCleanup := true },
     { kind := .struct, out := 11, srcId := 2, args := [0] },
     { kind := .func, out := 12, srcId := 3, args := [1], hasCleanup := true }] 2 0 :=
  .trans (m := 1)
    (.direct (q := 2) (p := 1) (c := { kind := .func, out := 12, srcId := 3, args := [1], hasCleanup := true }) rfl (by simp))
    (.direct (q := 1) (p := 0) (c := { kind := .struct, out := 11, srcId := 2, args := [0] }) rfl (by simp))

end WireP.C04
