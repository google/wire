import WireP.Lemmas.SolveUsed
import WireP.Lemmas.SolveFinal
import WireP.Lemmas.SolveExample
/-! # C08 — unused providers, values, bindings, fields and imported sets are reported

`used_spec_partial` needs `GivenLeaf pm given` for its "if" half (counterexample `pmB`, below); it
does *not* need `SrcTotal pm sm`.  `unused_reported` is stated per identity, since an error carries
only the identity. -/
namespace WireP.C08
open WireV WireP.Solve

/-- Without errors, a source is marked used exactly when it is the source of some type that the
    requested type needs and that is not given. -/
theorem used_spec_partial {pm : PMap} {sm : SMap} {given : List Ty} {out : Ty}
    (hH : H pm given) (hl : GivenLeaf pm given) (he : (final pm sm given out).errs = [])
    (src : SrcId) :
    src ∈ (final pm sm given out).used ↔
      ∃ t, Reach pm out t ∧ t ∉ given ∧ look t sm = some src :=
  WireP.Solve.used_spec_partial hH hl he src

/-- the "only if" half holds without `GivenLeaf` and whether or not there are errors -/
theorem used_sound {pm : PMap} {sm : SMap} {given : List Ty} {out : Ty} (hH : H pm given) :
    ∀ src ∈ (final pm sm given out).used,
      ∃ t, Reach pm out t ∧ t ∉ given ∧ look t sm = some src :=
  WireP.Solve.used_sound hH.concClosed hH.givenNodup

/-- Exactly the unused items are reported: providers here, the other four kinds below. -/
theorem unused_reported (d : SetDef) (impIds : List Nat) (used : List SrcId) (i : Nat) :
    Err.unusedProv i ∈ verifyArgsUsed d impIds used ↔
      (∃ p ∈ d.provs, p.id = i) ∧ SrcId.prov i ∉ used := by
  rw [mem_verifyArgsUsed_iff]
  exact ⟨fun ⟨_, hd, hu⟩ => by cases hd with | prov p h => exact ⟨⟨p, h, rfl⟩, hu⟩,
    fun ⟨⟨p, h, e⟩, hu⟩ => e ▸ ⟨_, .prov p h, e ▸ hu⟩⟩

theorem unused_reported_set (d : SetDef) (impIds : List Nat) (used : List SrcId) (i : Nat) :
    Err.unusedSet i ∈ verifyArgsUsed d impIds used ↔ i ∈ impIds ∧ SrcId.imp i ∉ used := by
  rw [mem_verifyArgsUsed_iff]
  exact ⟨fun ⟨_, hd, hu⟩ => by cases hd with | imp _ h => exact ⟨h, hu⟩,
    fun ⟨h, hu⟩ => ⟨_, .imp i h, hu⟩⟩

theorem unused_reported_val (d : SetDef) (impIds : List Nat) (used : List SrcId) (i : Nat) :
    Err.unusedVal i ∈ verifyArgsUsed d impIds used ↔
      (∃ v ∈ d.vals, v.id = i) ∧ SrcId.val i ∉ used := by
  rw [mem_verifyArgsUsed_iff]
  exact ⟨fun ⟨_, hd, hu⟩ => by cases hd with | val v h => exact ⟨⟨v, h, rfl⟩, hu⟩,
    fun ⟨⟨v, h, e⟩, hu⟩ => e ▸ ⟨_, .val v h, e ▸ hu⟩⟩

theorem unused_reported_bnd (d : SetDef) (impIds : List Nat) (used : List SrcId) (i : Nat) :
    Err.unusedBnd i ∈ verifyArgsUsed d impIds used ↔
      (∃ b ∈ d.bnds, b.id = i) ∧ SrcId.bnd i ∉ used := by
  rw [mem_verifyArgsUsed_iff]
  exact ⟨fun ⟨_, hd, hu⟩ => by cases hd with | bnd b h => exact ⟨⟨b, h, rfl⟩, hu⟩,
    fun ⟨⟨b, h, e⟩, hu⟩ => e ▸ ⟨_, .bnd b h, e ▸ hu⟩⟩

theorem unused_reported_fld (d : SetDef) (impIds : List Nat) (used : List SrcId) (i : Nat) :
    Err.unusedFld i ∈ verifyArgsUsed d impIds used ↔
      (∃ f ∈ d.flds, f.id = i) ∧ SrcId.fld i ∉ used := by
  rw [mem_verifyArgsUsed_iff]
  exact ⟨fun ⟨_, hd, hu⟩ => by cases hd with | fld f h => exact ⟨⟨f, h, rfl⟩, hu⟩,
    fun ⟨⟨f, h, e⟩, hu⟩ => e ▸ ⟨_, .fld f h, e ▸ hu⟩⟩

/-- `verifyArgsUsed` reports nothing else -/
theorem unused_only (d : SetDef) (impIds : List Nat) (used : List SrcId) (e : Err)
    (h : e ∈ verifyArgsUsed d impIds used) :
    (∃ i, e = .unusedSet i) ∨ (∃ i, e = .unusedProv i) ∨ (∃ i, e = .unusedVal i) ∨
      (∃ i, e = .unusedBnd i) ∨ (∃ i, e = .unusedFld i) := by
  obtain ⟨_, hd, -⟩ := (mem_verifyArgsUsed_iff d impIds used e).mp h
  cases hd with
  | imp => exact .inl ⟨_, rfl⟩
  | prov => exact .inr (.inl ⟨_, rfl⟩)
  | val => exact .inr (.inr (.inl ⟨_, rfl⟩))
  | bnd => exact .inr (.inr (.inr (.inl ⟨_, rfl⟩)))
  | fld => exact .inr (.inr (.inr (.inr ⟨_, rfl⟩)))

/-- Unused items block output. -/
theorem solve_ok_used {pm : PMap} {sm : SMap} {d : SetDef} {impIds : List Nat}
    {given : List Ty} {out : Ty} {cs : List Call}
    (h : solve pm sm d impIds given out = .ok cs) :
    verifyArgsUsed d impIds (final pm sm given out).used = [] :=
  (WireP.Solve.solve_ok_iff.mp h).2.2.1

/-- End to end: if `solve` succeeds, every provider of the set is the source of a needed type
    (likewise for the other kinds, by `verifyArgsUsed_nil_iff`). -/
theorem solve_ok_all_needed {pm : PMap} {sm : SMap} {d : SetDef} {impIds : List Nat}
    {given : List Ty} {out : Ty} {cs : List Call} (hH : H pm given)
    (h : solve pm sm d impIds given out = .ok cs) :
    ∀ p ∈ d.provs, ∃ t, Reach pm out t ∧ t ∉ given ∧ look t sm = some (.prov p.id) :=
  fun p hp =>
    used_sound hH _ (((WireP.Solve.verifyArgsUsed_nil_iff d impIds _).mp (solve_ok_used h)).2.1 p hp)

open WireP.Solve.Ex

example : H pmEx [0] ∧ GivenLeaf pmEx [0] ∧ (final pmEx smEx [0] 7).errs = [] :=
  ⟨hEx, leafEx, by rw [finalEx]⟩
example : ∀ k ∈ [0, 1, 2, 3, 4, 5, 6, 7, 8], (look k pmEx).isSome = (look k smEx).isSome :=
  srcTotalEx
/-- every source but the injector argument is marked (the binding `40` included) -/
example : ∀ src ∈ [SrcId.val 10, .prov 20, .prov 21, .prov 22, .prov 23, .bnd 40, .fld 30],
    src ∈ (final pmEx smEx [0] 7).used := by rw [finalEx]; decide
example : SrcId.arg 0 ∉ (final pmEx smEx [0] 7).used := by rw [finalEx]; decide
example : verifyArgsUsed dEx [] (final pmEx smEx [0] 7).used = [] := by rw [finalEx]; decide
/-- one more value in the set that nothing needs: reported, and `solve` refuses -/
example : verifyArgsUsed dEx' [] (final pmEx smEx [0] 7).used = [Err.unusedVal 11] := by
  rw [finalEx]; decide
example : solve pmEx smEx dEx' [] [0] 7 = .errs [Err.unusedVal 11] := by rw [solve_eq, finalEx]; rfl
example : solve pmEx smEx dEx [] [0] 7 = .ok (final pmEx smEx [0] 7).calls := by
  rw [solve_eq, finalEx]; rfl
/-- an imported set none of whose types is needed is reported as well -/
example : verifyArgsUsed dEx [9] (final pmEx smEx [0] 7).used = [Err.unusedSet 9] := by
  rw [finalEx]; decide

/-- `GivenLeaf` cannot be dropped from `used_spec_partial`, even with `SrcTotal`: the given type `0`
    also has a provider needing the value `1`, whose source is not marked used. -/
example : H pmB [0] ∧ SrcTotal pmB smB ∧ (final pmB smB [0] 0).errs = [] ∧
    Reach pmB 0 1 ∧ 1 ∉ [0] ∧ look 1 smB = some (.val 2) ∧
    SrcId.val 2 ∉ (final pmB smB [0] 0).used := by
  refine ⟨hB, ?_, by decide, reachB1, by decide, by decide, by decide⟩
  intro k
  by_cases h0 : k = 0
  · subst h0; decide
  · by_cases h1 : k = 1
    · subst h1; decide
    · simp [pmB, smB, look, h0, h1]

end WireP.C08
