import WireP.Lemmas.TableProofs
/-! # C20 — no panics on valid input: what the regenerated tables show

`copyAST` and `zeroValue` end in `default: panic(...)`; `copy_never_panics` (every go/ast node kind
has a case), `zero_kinds_total` and `zero_basic_total` say that the default is unreachable.
`no_ast_shape_assertions` is about the other way to panic, a type assertion without comma-ok on a
go/ast node; it filters the list of assertions by a substring test and goes through
`Lits.filter_toList`, so that the kernel decodes each literal once. -/
namespace WireP.C20
open WireV WireV.Generated WireP.Tables

theorem copy_never_panics : copyUnhandled = [] := WireP.Tables.copyUnhandled_nil

/-- every kind of underlying type has a case in `zeroValue`.  `zeroKindsAll` is the nine kinds
    written out by hand in `WireV/Tables.lean`, not an inventory regenerated from go/types: a kind
    added to go/types would not show up here. -/
theorem zero_kinds_total : zeroUnhandled = [] := by decide +kernel

/-- every typed basic kind is handled by the `*types.Basic` branch of `zeroValue` -/
theorem zero_basic_total :
    (Generated.basicKinds.filter (fun kf =>
      !(kf.2.any (fun f => Generated.zeroBasicFlags.contains f)) && !Generated.zeroBasicKinds.contains kf.1)) = [] := by
  decide +kernel

/-- no `x.(T)` without comma-ok in parse.go, wire.go, analyze.go (regenerated list) targets a go/ast
    node type: an unexpected (type-correct) spelling of a marker-function argument cannot make such an
    assertion panic -/
theorem no_ast_shape_assertions : astShapeAsserts = [] := by
  rw [astShapeAsserts, toList_lit (s := "(*ast.") rfl, toList_lit (s := "(ast.") rfl]
  simp only [uncheckedAssertsParse, uncheckedAssertsWire, uncheckedAssertsAnalyze, List.cons_append,
    List.nil_append]
  exact (Lits.filter_toList (by repeat first | exact .nil | apply Lits.cons rfl)
    fun c => infixC _ c || infixC _ c).trans (by decide +kernel)

/-- the filter recognises the assertion that defect D3 consisted of -/
example : infixC "(*ast.".toList "processStructProvider: call.Args[0].(*ast.CallExpr)".toList = true := by
  rw [toList_lit (s := "(*ast.") rfl, toList_lit (s := "processStructProvider: call.Args[0].(*ast.CallExpr)") rfl]
  decide +kernel

example : (uncheckedAssertsParse ++ uncheckedAssertsWire ++ uncheckedAssertsAnalyze).length ≥ 10 := by decide +kernel

example : copyDefaultPanics = true ∧ zeroDefaultPanics = true := by decide +kernel

example : zeroKindsAll.length = 9 ∧ zeroKindsAll.length ≤ zeroCases.length ∧ basicKinds.length = 18 := by decide +kernel

/-- `UnsafePointer` has no flag and is covered only through `zeroBasicKinds` -/
example : (basicKinds.filter (fun kf => !(kf.2.any (fun f => zeroBasicFlags.contains f)))).map (·.1) = ["UnsafePointer"] := by
  decide +kernel

/-- the check detects a missing kind -/
example : (["Basic", "Tuple"].filter (fun k => !(zeroCases.map (·.1)).contains k)) = ["Tuple"] := by decide +kernel

end WireP.C20
