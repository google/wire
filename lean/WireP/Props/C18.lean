import WireP.Lemmas.CmdProofsHist
/-! # C18 — regenerating after any history leaves the file a fresh checkout would get

Model: `WireV.stepH`, `WireV.runH`, histories of `switch v` (edit the sources), `gen`, `diff`, `delete p`, `clobber p c`
over the abstract file system.  `A : Nat → LoadRes` is what analysis yields for each variant; by H-iso (DESIGN.md
§5/C18) it does not depend on the file system (the generated file is excluded from loading by its build constraint).
`hs` is the header status of `diff`.  `GoodVariant`, `outPaths`, `freshFS`: `WireP/Lemmas/CmdProofsHist.lean`.

The unrestricted statement is false (finding D11, `regen_stale_survives`): a package that has no Wire output any more
keeps its stale `wire_gen.go`, and `diff` does not notice.  Hence `…_partial`. -/
namespace WireP.C18
open WireV WireP.CmdProofs

/-- after any history that ends in `gen` on a good variant, every output file holds what `gen` writes on a fresh
    checkout, and that `gen` exits 0 -/
theorem regen_fresh_partial (A : Nat → LoadRes) (hs v : Nat) (s : HState) (ops : List Op) :
    GoodVariant A v → (runH A hs s ops).1.variant = v →
    (∀ outs, A v = .ok outs → ∀ o ∈ outs,
        fsGet (runH A hs s (ops ++ [.gen])).1.fs o.outPath = some o.content) ∧
    (∀ p ∈ outPaths (A v), fsGet (runH A hs s (ops ++ [.gen])).1.fs p = fsGet (freshFS A v) p) ∧
    (runH A hs s (ops ++ [.gen])).2.getLast? = some (some 0) ∧
    (runH A hs s (ops ++ [.gen])).1.variant = v := fun hg hv =>
  WireP.CmdProofs.regen_fresh_partial A hs v hg s ops hv

theorem regen_fresh_switch_partial (A : Nat → LoadRes) (hs v : Nat) (s : HState) (ops : List Op) :
    GoodVariant A v →
    (∀ outs, A v = .ok outs → ∀ o ∈ outs,
        fsGet (runH A hs s (ops ++ [.switch v, .gen])).1.fs o.outPath = some o.content) ∧
    (∀ p ∈ outPaths (A v), fsGet (runH A hs s (ops ++ [.switch v, .gen])).1.fs p = fsGet (freshFS A v) p) ∧
    (runH A hs s (ops ++ [.switch v, .gen])).2.getLast? = some (some 0) := fun hg => by
  have hv : (runH A hs s (ops ++ [.switch v])).1.variant = v := by rw [runH_snoc]; rfl
  rw [show ops ++ [Op.switch v, .gen] = ops ++ [.switch v] ++ [.gen] by simp]
  have ⟨h1, h2, h3, _⟩ := regen_fresh_partial A hs v s _ hg hv
  exact ⟨h1, h2, h3⟩

/-- other paths keep whatever the history left there (any variant, good or not) … -/
theorem regen_other_paths_untouched (A : Nat → LoadRes) (hs : Nat) (s : HState) (ops : List Op) (p : Nat) :
    p ∉ outPaths (A (runH A hs s ops).1.variant) →
    fsGet (runH A hs s (ops ++ [.gen])).1.fs p = fsGet (runH A hs s ops).1.fs p := by
  rw [runH_snoc]; exact gen_other_paths A hs _ p

/-- … whereas a fresh checkout has nothing there (`freshFS A v` unfolds to the file system after `gen` from
    `⟨[], v⟩`, for any `hs`) -/
theorem fresh_other_paths_absent (A : Nat → LoadRes) (v p : Nat) :
    p ∉ outPaths (A v) → fsGet (freshFS A v) p = none :=
  gen_other_paths A 0 ⟨[], v⟩ p

/-- holds for every variant and from every state (`CmdProofs.stepH_gen_gen`): the two hypotheses are not used -/
theorem gen_idempotent (A : Nat → LoadRes) (hs v : Nat) (s : HState) (p : Nat) :
    GoodVariant A v → s.variant = v →
    fsGet (stepH A hs (stepH A hs s .gen).1 .gen).1.fs p = fsGet (stepH A hs s .gen).1.fs p := fun _ _ =>
  stepH_gen_gen A hs s p

/-- as states: the second `gen` re-inserts the entries in the same order -/
theorem gen_idempotent_list (A : Nat → LoadRes) (hs v : Nat) (s : HState) :
    GoodVariant A v → s.variant = v →
    (stepH A hs (stepH A hs s .gen).1 .gen).1 = (stepH A hs s .gen).1 := fun hg hv =>
  WireP.CmdProofs.gen_idempotent_list A hs v hg s hv

theorem diff_after_gen (A : Nat → LoadRes) (hs v : Nat) (s : HState) :
    GoodVariant A v → s.variant = v →
    (stepH A hs (stepH A hs s .gen).1 .diff).2 = some 0 := fun hg hv =>
  WireP.CmdProofs.diff_after_gen A hs v hg s hv

/-- despite the name, about `.diff` only: `Op` has no `check` operation -/
theorem diff_check_readonly (A : Nat → LoadRes) (hs : Nat) (s : HState) : (stepH A hs s .diff).1 = s := rfl

/-- Finding D11: the statement without `GoodVariant` fails.  Variant `v` has one package without Wire output (path 7)
    and the file system holds a stale generated file there.  After `gen` it is still there, `gen` and `diff` both exit
    0, and a fresh checkout would have no such file. -/
theorem regen_stale_survives (A : Nat → LoadRes) (hs v : Nat) (hA : A v = .ok [⟨7, false, 0⟩]) :
    fsGet (runH A hs ⟨[(7, 5)], v⟩ [.gen, .diff]).1.fs 7 = some 5 ∧
    (runH A hs ⟨[(7, 5)], v⟩ [.gen, .diff]).2 = [some 0, some 0] ∧
    fsGet (freshFS A v) 7 = none := by
  simp only [runH, stepH, freshFS, hA]
  exact ⟨rfl, rfl, rfl⟩

theorem regen_stale_survives_closed :
    (runH (fun _ => .ok [⟨7, false, 0⟩]) 2 ⟨[(7, 5)], 0⟩ [.gen, .diff]).1.fs = [(7, 5)] ∧
    (runH (fun _ => .ok [⟨7, false, 0⟩]) 2 ⟨[(7, 5)], 0⟩ [.gen, .diff]).2 = [some 0, some 0] ∧
    freshFS (fun _ => .ok [⟨7, false, 0⟩]) 0 = [] := by decide +kernel

theorem regen_fresh_full_false :
    ¬ ∀ (A : Nat → LoadRes) (hs : Nat) (s : HState) (ops : List Op) (p : Nat),
        fsGet (runH A hs s (ops ++ [.gen])).1.fs p = fsGet (freshFS A (runH A hs s ops).1.variant) p := fun h =>
  absurd (h (fun _ => .ok [⟨7, false, 0⟩]) 2 ⟨[(7, 5)], 0⟩ [] 7) (by decide)

private def A2 : Nat → LoadRes
  | 0 => .ok [⟨10, false, 100⟩, ⟨20, false, 200⟩]
  | 1 => .ok [⟨10, false, 101⟩, ⟨30, false, 300⟩]
  | _ => .loadErr

example : GoodVariant A2 0 := ⟨_, rfl, by decide, by decide, by decide⟩
example : GoodVariant A2 1 := ⟨_, rfl, by decide, by decide, by decide⟩

example : runH A2 2 ⟨[(20, 5)], 0⟩ [.gen, .diff, .clobber 10 66, .diff, .delete 20, .diff, .switch 1, .diff, .gen, .diff] =
    (⟨[(30, 300), (10, 101)], 1⟩,
     [some 0, some 0, none, some 1, none, some 1, none, some 1, some 0, some 0]) := rfl

/-- file 20, an output of variant 0 only, stays behind after switching to variant 1 -/
example : (runH A2 2 ⟨[], 0⟩ [.gen, .switch 1, .gen]).1.fs = [(30, 300), (10, 101), (20, 200)] := by decide +kernel
example : freshFS A2 1 = [(30, 300), (10, 101)] := by decide +kernel

end WireP.C18
