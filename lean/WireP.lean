import WireP.Props.C01
import WireP.Props.C02
import WireP.Props.C03
import WireP.Props.C04
import WireP.Props.C05
import WireP.Props.C06
import WireP.Props.C07
import WireP.Props.C08
import WireP.Props.C09
import WireP.Props.C10
import WireP.Props.C11
import WireP.Props.C12
import WireP.Props.C13
import WireP.Props.C14
import WireP.Props.C15
import WireP.Props.C16
import WireP.Props.C17
import WireP.Props.C18
import WireP.Props.C19
import WireP.Props.C20
import WireP.Props.Pipeline
import WireP.Acyc.Total
import WireP.SolveS.Solve
import WireP.SolveS.Cleanup
